import Hagall.Gen.Facts
/-
  What the Layer C models (`Model/Registry`, `Attach`, `Handover`, `Relay`, `Notify`, `Newcomer`, `Premature`, `AddOnce`,
  and the one in `Props/C16Conc`) assume of the code, computed on the facts regenerated from the current source - not compared with a reference copy: the order of the calls
  inside the handlers that makes each model's transitions the code's critical sections, and the lock each critical
  section holds.  A change of `/repo` that breaks one of these assumptions breaks the theorem here, whatever happens to
  `Gen/Expected.lean`.
-/
namespace Hagall.Gen.Order

/-- position of the first / last occurrence of a call in a handler's sequence of calls -/
def first (l : List String) (a : String) : Option Nat := l.findIdx? (· == a)
def last (l : List String) (a : String) : Option Nat := (l.reverse.findIdx? (· == a)).map fun i => l.length - 1 - i

/-- `a` is called, and its first call comes before the last call of `b` -/
def before (l : List String) (a b : String) : Bool :=
  match first l a, last l b with
  | some i, some j => i < j
  | _, _ => false

/-- `a`'s first call, then `b`, then `a` again, then `c`: look, act, look again, undo -/
def lookActLook (l : List String) (a b c : String) : Bool :=
  match first l a, first l b, last l a, last l c with
  | some i, some j, some k, some m => i < j && j < k && k < m
  | _, _, _, _ => false

/-! ### the registry (`Model/Registry`, F20) -/

/-- a connection takes its place in the session it joins before it leaves the one it is in -/
theorem registry_place_before_leaving :
    before calls_in_RealtimeHandler_HandleParticipantJoin "session.AddParticipant" "h.leaveSession" = true := by decide +kernel
/-- a new session is registered holding its creator.  The handler calls `AddParticipant` twice (join by id, create):
    the LAST of them must come before the FIRST `Sessions.Add`, whereas `before` (first before last) would be content
    with the one of the join by id -/
theorem registry_creator_before_registration :
    (match last calls_in_RealtimeHandler_HandleParticipantJoin "session.AddParticipant", first calls_in_RealtimeHandler_HandleParticipantJoin "h.Sessions.Add" with
     | some i, some j => decide (i < j) | _, _ => false) = true := by decide +kernel
/-- the session is unregistered after, and only through, the removal that reports "last" -/
theorem registry_remove_then_unregister :
    before calls_in_RealtimeHandler_leaveSession "session.RemoveParticipant" "h.Sessions.Remove" = true := by decide +kernel
theorem registry_critical_sections :
    locks_Session_AddParticipant = ["participantMutex.Lock", "defer participantMutex.Unlock"] ∧
    locks_Session_RemoveParticipant = ["participantMutex.Lock", "defer participantMutex.Unlock"] ∧
    writes_Session_RemoveParticipant = ["ended", "participants"] ∧
    locks_SequentialIDGenerator_New = ["mutex.Lock", "defer mutex.Unlock"] ∧
    locks_SequentialIDGenerator_Reuse = ["mutex.Lock", "defer mutex.Unlock"] := ⟨rfl, rfl, rfl, rfl, rfl⟩

/-! ### what is attached to an entity (`Model/Attach`, F21 / F24; `Model/Handover`, F23) -/

/-- the entity leaves the session before what is attached to it is released: components at once, module state after the
    loop over the leaver's entities -/
theorem attach_entity_removed_first :
    before calls_in_RealtimeHandler_leaveSession "session.RemoveEntity" "session.GetEntityComponents().DeleteByEntityID" = true ∧
    before calls_in_RealtimeHandler_leaveSession "session.RemoveEntity" "m.HandleDisconnect" = true ∧
    before calls_in_RealtimeHandler_HandleEntityDelete "session.RemoveEntity" "session.GetEntityComponents().DeleteByEntityID" = true := by decide +kernel
/-- who attaches looks the entity up, stores, looks again, and takes back -/
theorem attach_adder_looks_again :
    lookActLook calls_in_RealtimeHandler_HandleEntityComponentAdd "session.EntityByID" "session.GetEntityComponents().Add"
      "session.GetEntityComponents().Delete" = true ∧
    lookActLook calls_in_vikja_handleSetEntityAction "session.EntityByID" "m.state.SetEntityActionIfLatest" "m.state.RemoveEntityActions" = true := by decide +kernel
/-- the modules hand a newcomer only what belongs to entities that are in the session -/
theorem handover_filters_by_entity :
    calls_in_vikja_handleParticipantJoin.contains "m.currentSession.EntityByID" = true ∧
    calls_in_odal_handleParticipantJoin.contains "m.currentSession.EntityByID" = true := by decide +kernel

/-! ### relays and notifications (`Model/Relay`, F22; `Model/Notify`) -/

/-- a relay looks its recipients up and hands the message over under the participants read lock, held to the end -/
theorem relay_is_one_critical_section :
    locks_Session_Broadcast = ["participantMutex.RLock", "defer participantMutex.RUnlock"] ∧
    locks_Session_BroadcastTo = ["participantMutex.RLock", "defer participantMutex.RUnlock"] ∧
    calls_Session_Broadcast.contains "p.Responder.SendMsg" = true ∧ calls_Session_BroadcastTo.contains "p.Responder.SendMsg" = true := by decide +kernel
/-- a notification reads the subscribers and runs the relay under the subscription read lock, held to the end;
    subscribing and unsubscribing take it in write mode -/
theorem notify_is_one_critical_section :
    locks_EntityComponentStore_Notify = ["subscriptionMutex.RLock", "defer subscriptionMutex.RUnlock"] ∧
    calls_EntityComponentStore_Notify.contains "h" = true ∧
    locks_EntityComponentStore_Subscribe.contains "subscriptionMutex.Lock" = true ∧
    locks_EntityComponentStore_Unsubscribe.contains "subscriptionMutex.Lock" = true ∧
    locks_EntityComponentStore_UnsubscribeByParticipant.contains "subscriptionMutex.Lock" = true := by decide +kernel

/-! ### the latest action (`Props/C16Conc`, F25) -/

/-- the handler compares and stores in one call, and that call is one critical section under the write lock -/
theorem action_compare_and_store_is_one_step :
    calls_in_vikja_handleSetEntityAction.contains "m.state.SetEntityActionIfLatest" = true ∧
    calls_in_vikja_handleSetEntityAction.contains "m.state.SetEntityAction" = false ∧
    calls_in_vikja_handleSetEntityAction.contains "m.state.EntityAction" = false ∧
    locks_vikja_State_SetEntityActionIfLatest = ["entityActionMutex.Lock", "defer entityActionMutex.Unlock"] ∧
    writes_vikja_State_SetEntityActionIfLatest = ["entityActions"] := by decide +kernel

/-! ### the state handed to a newcomer (`Model/Newcomer`, `Props/C01New`, F32) -/

/-- the newcomer takes its place first; the session state, and each module's, is read after `Session.Exclusive` is
    entered (the call sequence is flat: that the reads sit inside the closure is what the exploration of the real
    handlers and the corpus schedule of F32 check); `Exclusive` holds the participants lock in write mode to the end, a
    relay holds it in read mode to the end (`relay_is_one_critical_section`) -/
theorem newcomer_state_is_one_critical_section :
    locks_Session_Exclusive = ["participantMutex.Lock", "defer participantMutex.Unlock"] ∧
    calls_Session_Exclusive.contains "f" = true ∧
    before calls_in_RealtimeHandler_HandleParticipantJoin "session.AddParticipant" "session.Exclusive" = true ∧
    before calls_in_RealtimeHandler_HandleParticipantJoin "session.Entities" "session.Exclusive" = false ∧
    before calls_in_RealtimeHandler_HandleParticipantJoin "session.GetEntityComponents().ListAll" "session.Exclusive" = false ∧
    first calls_in_vikja_handleParticipantJoin "m.currentSession.Exclusive" = some 0 ∧
    first calls_in_odal_handleParticipantJoin "m.currentSession.Exclusive" = some 0 := by decide +kernel

/-! ### the clean-up of a refused delete request (`Model/Premature`, `Props/C05Premature`, F46) -/

/-- the modules' clean-up on a delete request looks the entity up inside the critical section that removes: the handler
    calls the removing method and nothing that removes without it; the method holds the module state's lock in write
    mode to the end and calls the look-up it is given (`keep`) before `delete` -/
theorem cleanup_looks_up_under_the_state_lock :
    first calls_in_odal_handleEntityDelete "m.state.RemoveAssetInstanceUnless" = some 0 ∧
    calls_in_odal_handleEntityDelete.contains "m.state.RemoveAssetInstance" = false ∧
    first calls_in_vikja_handleEntityDelete "m.state.RemoveEntityActionsUnless" = some 0 ∧
    calls_in_vikja_handleEntityDelete.contains "m.state.RemoveEntityActions" = false ∧
    locks_odal_State_RemoveAssetInstanceUnless = ["assetMutex.Lock", "defer assetMutex.Unlock"] ∧
    locks_vikja_State_RemoveEntityActionsUnless = ["entityActionMutex.Lock", "defer entityActionMutex.Unlock"] ∧
    before calls_odal_State_RemoveAssetInstanceUnless "keep" "delete" = true ∧
    before calls_vikja_State_RemoveEntityActionsUnless "keep" "delete" = true := by decide +kernel

/-! ### one key of the component store (`Model/AddOnce`, `Props/C12Add`) -/

/-- `Add` and `Delete` look the key up and change the map under one write lock held to the end; no other method of the
    store that writes the map does so under less -/
theorem component_add_is_one_critical_section :
    locks_EntityComponentStore_Add = ["mutex.Lock", "defer mutex.Unlock"] ∧
    locks_EntityComponentStore_Delete = ["mutex.Lock", "defer mutex.Unlock"] ∧
    writes_EntityComponentStore_Add = ["entityComponents"] ∧ writes_EntityComponentStore_Delete = ["entityComponents"] ∧
    calls_in_RealtimeHandler_HandleEntityComponentAdd.contains "session.GetEntityComponents().Add" = true ∧
    calls_in_RealtimeHandler_HandleEntityComponentDelete.contains "session.GetEntityComponents().Delete" = true := by decide +kernel

end Hagall.Gen.Order
