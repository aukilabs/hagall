import Hagall.Gen.Facts
import Hagall.Model.Types
namespace Hagall.Gen

/- fact kind 1 (constants, DESIGN.md 2.2): channel capacities -/
theorem receiptChanCap_eq : receiptChanCap = Hagall.receiptQueueCap := rfl
theorem sendChanSize_eq : sendChanSize = 512 := rfl
theorem disconnectChanCap_eq : disconnectChanCap = 8 := rfl
theorem closeFrameChanCap_eq : closeFrameChanCap = 1 := rfl
end Hagall.Gen
