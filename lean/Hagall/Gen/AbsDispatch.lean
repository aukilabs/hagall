/- Obligations about the regenerated facts: the dispatch table of handler.handleMessage (fact kind 5, DESIGN.md 2.2). -/
import Hagall.Gen.Facts
namespace Hagall.Gen

theorem dispatch_eq : dispatch = [
    ("PING_REQUEST", "HandlePing"), ("PING_RESPONSE", "HandlePingResponse"),
    ("SIGNED_LATENCY_REQUEST", "HandleSignedLatency"), ("PARTICIPANT_JOIN_REQUEST", "HandleParticipantJoin"),
    ("ENTITY_ADD_REQUEST", "HandleEntityAdd"), ("ENTITY_DELETE_REQUEST", "HandleEntityDelete"),
    ("ENTITY_UPDATE_POSE", "HandleEntityUpdatePose"), ("CUSTOM_MESSAGE", "HandleCustomMessage"),
    ("ENTITY_COMPONENT_TYPE_ADD_REQUEST", "HandleEntityComponentTypeAdd"),
    ("ENTITY_COMPONENT_TYPE_GET_NAME_REQUEST", "HandleEntityComponentGetName"),
    ("ENTITY_COMPONENT_TYPE_GET_ID_REQUEST", "HandleEntityComponentGetID"),
    ("ENTITY_COMPONENT_ADD_REQUEST", "HandleEntityComponentAdd"),
    ("ENTITY_COMPONENT_DELETE_REQUEST", "HandleEntityComponentDelete"),
    ("ENTITY_COMPONENT_LIST_REQUEST", "HandleEntityComponentList"),
    ("ENTITY_COMPONENT_UPDATE", "HandleEntityComponentUpdate"),
    ("ENTITY_COMPONENT_TYPE_SUBSCRIBE_REQUEST", "HandleEntityComponentSubscribe"),
    ("ENTITY_COMPONENT_TYPE_UNSUBSCRIBE_REQUEST", "HandleEntityComponentUnsubscribe"),
    ("RECEIPT_REQUEST", "HandleReceipt")] := rfl

end Hagall.Gen
