import Hagall.Gen.Facts
import Hagall.Props.C08
namespace Hagall.Gen

/- What the life-cycle model (`Model/Life.lean`) assumes of `websocket/handler.go`, read off the current source.  The
   third capacity, `mq`, is `schedulerQueueSize` of hagall-common, outside what the facts are extracted from: none ties it. -/
theorem life_disconnect_chan : disconnectChanCap = Hagall.Life.good.dq := rfl
theorem life_send_chan : sendChanSize = Hagall.Life.good.sq := rfl
/-- `handler.disconnect` never blocks (the model's `report`; finding F6 was a blocking send here) -/
theorem life_report_nonblocking : sends_handler_disconnect = "nonblocking send h.disconnectChan" := rfl
theorem life_model_nonblocking : Hagall.Life.good.blockingReport = false := rfl
/-- what a session calls on each frame is `handler.handleFrame`, which never blocks (the model's `frame` event only marks
    the pump; finding F15 was the scheduler's blocking `HandleFrame` called under the session's frame lock) -/
theorem life_frame_nonblocking : sends_handler_handleFrame = "nonblocking send h.frameChan" := rfl
-- that it is `h.handleFrame` the session is given to call: `handleMessage` passes it to the join handler and does not
-- touch `h.dispatcher`, whose blocking `HandleFrame` is what the session called before the repair of F15
theorem life_frame_handler_passed : "handleFrame" ∈ fields_handler_handleMessage ∧ "dispatcher" ∉ fields_handler_handleMessage := by
  simp [fields_handler_handleMessage]
theorem life_pump_hands_over : skel_handler_startHandlingFrames = "h.dispatcher.HandleFrame" := rfl
theorem life_model_frame : Hagall.Life.good.frameUnderLock = false := rfl
end Hagall.Gen
