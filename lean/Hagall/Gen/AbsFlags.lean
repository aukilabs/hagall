/- Obligations about the regenerated facts: feature-flag wiring (fact kinds 1 and 2, DESIGN.md 2.2). -/
import Hagall.Gen.Facts
import Hagall.Model.Types
namespace Hagall.Gen

/-- the ten flag names are the ones the model's message classes carry -/
theorem flagNames_eq : flagNames = [
    ("FlagDisableCustomMessageBroadcast", Hagall.fCustom),
    ("FlagDisableEntityAddBroadcast", Hagall.fEntityAdd),
    ("FlagDisableEntityComponentAddBroadcast", Hagall.fCompAdd),
    ("FlagDisableEntityComponentDeleteBroadcast", Hagall.fCompDelete),
    ("FlagDisableEntityComponentUpdateBroadcast", Hagall.fCompUpdate),
    ("FlagDisableEntityDeleteBroadcast", Hagall.fEntityDelete),
    ("FlagDisableEntityUpdatePoseBroadcast", Hagall.fPose),
    ("FlagDisableParticipantJoinBroadcast", Hagall.fJoin),
    ("FlagDisableParticipantLeaveBroadcast", Hagall.fLeave),
    ("FlagDisableSessionState", Hagall.fSessionState)] := rfl

/-- every `IfNotSet` site of websocket/realtime.go wraps exactly the construction of its own message
    class and nothing that changes state; eleven sites for ten flags (the entity-delete broadcast is sent
    from the delete handler and from `leaveSession`) -/
theorem flagSites_eq : flagSites = [
    ("HandleParticipantJoin", "FlagDisableSessionState", ["hagallpb.SessionState"], []),
    ("HandleParticipantJoin", "FlagDisableParticipantJoinBroadcast", ["hagallpb.ParticipantJoinBroadcast"], []),
    ("HandleEntityAdd", "FlagDisableEntityAddBroadcast", ["hagallpb.EntityAddBroadcast"], []),
    ("HandleEntityDelete", "FlagDisableEntityDeleteBroadcast", ["hagallpb.EntityDeleteBroadcast"], []),
    ("HandleEntityUpdatePose", "FlagDisableEntityUpdatePoseBroadcast", ["hagallpb.EntityUpdatePoseBroadcast"], []),
    ("HandleCustomMessage", "FlagDisableCustomMessageBroadcast", ["hagallpb.CustomMessageBroadcast"], []),
    ("HandleEntityComponentAdd", "FlagDisableEntityComponentAddBroadcast", ["hagallpb.EntityComponentAddBroadcast"], []),
    ("HandleEntityComponentDelete", "FlagDisableEntityComponentDeleteBroadcast", ["hagallpb.EntityComponentDeleteBroadcast"], []),
    ("HandleEntityComponentUpdate", "FlagDisableEntityComponentUpdateBroadcast", ["hagallpb.EntityComponentUpdateBroadcast"], []),
    ("leaveSession", "FlagDisableEntityDeleteBroadcast", ["hagallpb.EntityDeleteBroadcast"], []),
    ("leaveSession", "FlagDisableParticipantLeaveBroadcast", ["hagallpb.ParticipantLeaveBroadcast"], [])] := rfl

/-- no broadcast of the core handlers escapes the flags, and the modules do not consult flags -/
theorem ungatedBroadcasts_eq : ungatedBroadcasts = [] := rfl
theorem moduleFlagUses_eq : moduleFlagUses = 0 := rfl

end Hagall.Gen
