import Hagall.Gen.Facts
import Hagall.Model.Types
namespace Hagall.Gen

/- fact kind 1 (constants, DESIGN.md 2.2): the custom-message limit and its guard (`>`: a body of exactly the limit is
   accepted) -/
theorem customMessageMaxSize_eq : customMessageMaxSize = Hagall.customMessageMaxSize := rfl
theorem customSizeGuard_eq : customSizeGuards = ["len() > customMessageMaxSize"] := rfl
end Hagall.Gen
