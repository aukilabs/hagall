import Hagall.Gen.Facts
import Hagall.Model.Types
namespace Hagall.Gen

/- fact kind 1 (constants, DESIGN.md 2.2): the signed-latency iteration bounds -/
theorem latencyGuards_eq : latencyIterationGuards = ["< 3", "> 50"] := rfl
theorem latencyBounds_model : Hagall.latencyMinIter = 3 ∧ Hagall.latencyMaxIter = 50 := ⟨rfl, rfl⟩
end Hagall.Gen
