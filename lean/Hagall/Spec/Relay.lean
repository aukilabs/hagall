/-
  Specification vocabulary for relays (C02, C13, C14, C16): which messages are relays of a change,
  and what "relayed exactly once to every other member" means for the deliveries of one step.
-/
import Hagall.Model.Session
namespace Hagall

/-- server-to-client messages that relay a participant's change to the other members -/
def Out.isRelay : Out → Bool
  | .joinBcast .. | .leaveBcast .. | .entityAddBcast .. | .entityDeleteBcast .. | .poseBcast ..
  | .customBcast .. | .compAddBcast .. | .compDeleteBcast .. | .compUpdateBcast ..
  | .actionBcast .. | .assetAddBcast .. => true
  | _ => false

/-- number of copies of message `m` delivered to connection `c` -/
def countTo (c : Nat) (m : Out) (ds : List Delivery) : Nat := ds.count (c, m)

/-- `ds` carries `m` exactly once to every participant of `s` other than `sender`, to the sender never,
    and every copy of `m` in `ds` is addressed to such a participant. -/
def RelayedOnce (s : Session) (sender : Nat) (m : Out) (ds : List Delivery) : Prop :=
  (∀ q ∈ s.parts, countTo q.conn m ds = if q.pid ≠ sender then 1 else 0) ∧
  (∀ d ∈ ds, d.2 = m → ∃ q ∈ s.parts, q.pid ≠ sender ∧ d.1 = q.conn)

/-- no relay at all among the deliveries -/
def NoRelay (ds : List Delivery) : Prop := ∀ d ∈ ds, d.2.isRelay = false

/-- the only relay among the deliveries is `m` -/
def OnlyRelay (m : Out) (ds : List Delivery) : Prop := ∀ d ∈ ds, d.2.isRelay = true → d.2 = m

end Hagall
