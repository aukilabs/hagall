/-
  Hagall model, layer S: the server — session registry, session-id generator, connections with their
  scheduler (hagall-common `scheduler`: coalescing maps + FIFO queue), receipt queue — and the total
  step function over events.
-/
import Hagall.Model.Session
namespace Hagall

/-- `models.SequentialIDGenerator` -/
structure IdGen where
  cur : Nat := 0
  pool : List Nat := []
deriving DecidableEq, Repr, Inhabited

/-- `New`: some pooled id (Go picks by map iteration: `hint` is the implementation's choice, used when
    it is in the pool; otherwise the first pooled id), else the next counter value. -/
def IdGen.new (g : IdGen) (hint : Nat) : Nat × IdGen :=
  match g.pool with
  | [] => (g.cur + 1, { g with cur := g.cur + 1 })
  | x :: _ =>
    let id := if g.pool.contains hint then hint else x
    (id, { g with pool := g.pool.filter (· != id) })

/-- `Reuse`: the pool is a set. -/
def IdGen.reuse (g : IdGen) (id : Nat) : IdGen :=
  if g.pool.contains id then g else { g with pool := g.pool ++ [id] }

/-- a message waiting in a connection's scheduler queue; `grp ≠ 0` = flushed by frame tick number `grp`
    (messages flushed by one tick were taken from a Go map: their relative order is arbitrary) -/
structure QItem where
  req : Req
  grp : Nat := 0
deriving DecidableEq, Repr, Inhabited

structure Conn where
  id : Nat
  pendPose : List (Nat × Req) := []          -- entity id ↦ latest pose update
  pendComp : List ((Nat × Nat) × Req) := []  -- (type id, entity id) ↦ latest component update
  queue : List QItem := []
deriving DecidableEq, Repr, Inhabited

structure Receipt where
  receipt : Bytes
  hash : Bytes
  sig : Bytes
deriving DecidableEq, Repr, Inhabited

structure Server where
  sessions : List Session := []
  ids : IdGen := {}
  uuidCur : Nat := 0
  conns : List Conn := []
  receipts : List Receipt := []
  forwarded : List Receipt := []   -- what the drain event took out of the queue, oldest first
  gauge : Int := 0                 -- session_count gauge (Inc on Add, Dec on Remove)
  ticks : Nat := 0
deriving DecidableEq, Repr, Inhabited

inductive Event
  | connect (c : Nat)
  | recv (c : Nat) (r : Req)                 -- receiver goroutine: `scheduler.Dispatch`
  | handle (c : Nat) (pick hint : Nat)       -- main loop: consume one queued message, `handleMessage`
  | tick (sid : Nat)                         -- frame worker of session `sid`: every member's `HandleFrame`
  | disconnect (c : Nat)                     -- `handleDisconnect`
  | drain                                    -- the receipt consumer takes everything queued
deriving DecidableEq, Repr, Inhabited

abbrev SRes := Server × List Delivery × Outcome

/-! ### lookups and updates -/

def Server.findSession (srv : Server) (sid : Nat) : Option Session := srv.sessions.find? (·.id == sid)

/-- the session and participant record a connection is currently joined as -/
def Server.locate (srv : Server) (c : Nat) : Option (Session × Part) :=
  srv.sessions.findSome? fun s => (s.parts.find? (·.conn == c)).map fun p => (s, p)

def Server.setSession (srv : Server) (s : Session) : Server :=
  { srv with sessions := srv.sessions.map fun x => if x.id == s.id then s else x }

def Server.findConn (srv : Server) (c : Nat) : Option Conn := srv.conns.find? (·.id == c)
def Server.setConn (srv : Server) (k : Conn) : Server :=
  { srv with conns := srv.conns.map fun x => if x.id == k.id then k else x }

/-! ### leaving and joining -/

/-- `leaveSession` for a joined connection: the session part, then the registry part. -/
def Server.leave (cfg : Cfg) (srv : Server) (s : Session) (p : Part) : Server × List Delivery :=
  let (s', ds) := s.leave cfg p.pid
  if s'.parts.isEmpty then
    ({ srv with sessions := srv.sessions.filter (·.id != s.id), ids := srv.ids.reuse s.id,
                gauge := srv.gauge - 1 }, ds)
  else (srv.setSession s', ds)

/-- add connection `c` to session `s` as a new participant (`NewParticipantID`, `AddParticipant`) -/
def Session.addPart (s : Session) (c : Nat) : Session × Part :=
  let p : Part := { pid := s.pidCur + 1, conn := c }
  ({ s with pidCur := s.pidCur + 1, parts := s.parts ++ [p] }, p)

/-- what a successful join delivers: the response, the session snapshot, the join broadcast, and the
    module states handed out by the module pass of `handleMessage` (`s` already contains the newcomer) -/
def joinDeliveries (cfg : Cfg) (s : Session) (p : Part) (rid ots : Nat) : List Delivery :=
  ((p.conn, Out.joinResp rid s.id s.uuid p.pid)
      :: gate cfg fSessionState [(p.conn, .sessionState s.pids (s.ents.map Entity.view) s.comps)])
    ++ gate cfg fJoin (s.bcast p.pid (.joinBcast ots p.pid))
    ++ (if cfg.vikja then [(p.conn, Out.vikjaState s.actions)] else [])
    ++ (if cfg.odal then [(p.conn, Out.odalState s.assets)] else [])

/-- the part of `HandleParticipantJoin` after any previous session has been left,
    followed by the module pass of `handleMessage` -/
def Server.joinFresh (cfg : Cfg) (srv : Server) (c rid ots : Nat) (target : JoinTarget) (hint : Nat)
    : SRes :=
  match target with
  | .bogus => (srv, [(c, .error rid ecNotFound)], .ok)
  | .id n =>
    match srv.findSession n with
    | none => (srv, [(c, .error rid ecNotFound)], .ok)
    | some s =>
      let (s', p) := s.addPart c
      (srv.setSession s', joinDeliveries cfg s' p rid ots, .ok)
  | .new =>
    let (id, g) := srv.ids.new hint
    let (s', p) := ({ id, uuid := srv.uuidCur + 1 } : Session).addPart c
    ({ srv with ids := g, uuidCur := srv.uuidCur + 1, sessions := srv.sessions ++ [s'], gauge := srv.gauge + 1 },
     joinDeliveries cfg s' p rid ots, .ok)

/-- does the join target name an existing session, or ask for a new one? -/
def Server.resolves (srv : Server) : JoinTarget → Bool
  | .new => true
  | .id n => (srv.findSession n).isSome
  | .bogus => false

def Server.join (cfg : Cfg) (srv : Server) (c rid ots : Nat) (target : JoinTarget) (hint : Nat) : SRes :=
  match srv.locate c with
  | some (s, p) =>
    if target == .id s.id then
      -- refused, but still joined: the module pass of `handleMessage` runs on the join message
      (srv, (c, Out.error rid ecAlreadyJoined)
            :: (if cfg.vikja then [(c, Out.vikjaState s.actions)] else [])
            ++ (if cfg.odal then [(c, Out.odalState s.assets)] else []), .ok)
    else if !srv.resolves target then
      -- the lookup precedes the departure: a refused join changes nothing (the module pass still runs)
      (srv, (c, Out.error rid ecNotFound)
            :: (if cfg.vikja then [(c, Out.vikjaState s.actions)] else [])
            ++ (if cfg.odal then [(c, Out.odalState s.assets)] else []), .ok)
    else
      -- a measurement that is still running ends with the session it was started in: its request is answered too
      let (srv', ds) := srv.leave cfg s p
      let (srv'', ds', o) := srv'.joinFresh cfg c rid ots target hint
      (srv'', s.abandoned p ++ ds ++ ds', o)
  | none => srv.joinFresh cfg c rid ots target hint

/-! ### handling one message (`handler.handleMessage`) -/

/-- what a request that needs a session does when the connection is in none -/
def notJoined (c : Nat) (r : Req) : List Delivery × Outcome :=
  match r with
  | .pingResp rid => ([(c, .error rid ecUnauthorized)], .ok)
  | .signedLatency rid _ _ => ([(c, .error rid ecUnauthorized)], .ok)
  | .entityAdd .. | .entityDelete .. | .updatePose .. | .custom .. => ([], .connError)
  | .typeAdd rid name => if name == "" then ([(c, .error rid ecBadRequest)], .ok) else ([], .connError)
  | .typeGetName rid tid => if tid == 0 then ([(c, .error rid ecBadRequest)], .ok) else ([], .connError)
  | .typeGetId rid name => if name == "" then ([(c, .error rid ecBadRequest)], .ok) else ([], .connError)
  | .compAdd rid _ tid eid _ =>
    if tid == 0 || eid == 0 then ([(c, .error rid ecBadRequest)], .ok) else ([], .connError)
  | .compDelete rid _ tid eid =>
    if tid == 0 || eid == 0 then ([(c, .error rid ecBadRequest)], .ok) else ([], .connError)
  | .compUpdate _ tid eid _ => if tid == 0 || eid == 0 then ([], .ok) else ([], .connError)
  | .compList rid tid => if tid == 0 then ([(c, .error rid ecBadRequest)], .ok) else ([], .connError)
  | .subscribe rid tid => if tid == 0 then ([(c, .error rid ecBadRequest)], .ok) else ([], .connError)
  | .unsubscribe rid tid => if tid == 0 then ([(c, .error rid ecBadRequest)], .ok) else ([], .connError)
  | .undecodable ty => ([], if ty < 100 then .connError else .ok)
  | _ => ([], .ok)            -- module messages and unknown types are dropped

def Server.handleReceipt (cfg : Cfg) (srv : Server) (c rid : Nat) (receipt hash sig : Bytes) : SRes :=
  if receipt.length == 0 || hash.length == 0 || sig.length == 0 then
    (srv, [(c, .error rid ecBadRequest)], .ok)
  else if srv.receipts.length < cfg.rcap then
    ({ srv with receipts := srv.receipts ++ [⟨receipt, hash, sig⟩] }, [(c, .receiptResp rid)], .ok)
  else (srv, [(c, .error rid ecTooBusy)], .ok)

/-- `handleMessage` -/
def Server.handleReq (cfg : Cfg) (srv : Server) (c : Nat) (r : Req) (hint : Nat) : SRes :=
  match r with
  | .ping rid => (srv, [(c, .pingResp rid)], .ok)
  | .join rid ots target => srv.join cfg c rid ots target hint
  | .receipt rid rc h sg => srv.handleReceipt cfg c rid rc h sg
  | r =>
    match srv.locate c with
    | none => let (ds, o) := notJoined c r; (srv, ds, o)
    | some (s, p) =>
      let (s', ds, o) := s.handle cfg p r hint
      (srv.setSession s', ds, o)

/-! ### the scheduler -/

def insertKV {κ : Type} [BEq κ] (l : List (κ × Req)) (k : κ) (v : Req) : List (κ × Req) :=
  if l.any (·.1 == k) then l.map fun q => if q.1 == k then (k, v) else q else l ++ [(k, v)]

/-- `handler.dispatch` after the join request's flush: an update without a pose is dropped before it reaches the
    scheduler (it would take the place of the update with a pose that waits for the frame), the rest is
    `scheduler.Dispatch` -/
def Conn.dispatch (k : Conn) (r : Req) : Conn × Outcome :=
  match r with
  | .updatePose _ _ none => (k, .ok)
  | .updatePose _ eid _ => ({ k with pendPose := insertKV k.pendPose eid r }, .ok)
  | .compUpdate _ tid eid _ => ({ k with pendComp := insertKV k.pendComp (tid, eid) r }, .ok)
  | .undecodable ty =>
    if ty == 14 || ty == 30 then (k, .connError) else ({ k with queue := k.queue ++ [⟨r, 0⟩] }, .ok)
  | r => ({ k with queue := k.queue ++ [⟨r, 0⟩] }, .ok)

/-- `scheduler.HandleFrame` during tick number `n` -/
def Conn.flush (k : Conn) (n : Nat) : Conn :=
  { k with queue := k.queue ++ (k.pendPose.map fun q => ⟨q.2, n⟩) ++ (k.pendComp.map fun q => ⟨q.2, n⟩),
           pendPose := [], pendComp := [] }

/-- a pose update that carries a pose (one that carries none never reaches the scheduler) -/
def Req.isPose : Req → Bool | .updatePose _ _ (some _) => true | _ => false

/-- the messages that may be at the head of the Go channel: the head item, or, when the head was flushed
    by a tick, any item of the same tick and the same map (pose / component) -/
def headGroup (q : List QItem) : List QItem :=
  match q with
  | [] => []
  | x :: xs => if x.grp == 0 then [x] else
      x :: xs.takeWhile fun y => y.grp == x.grp && y.req.isPose == x.req.isPose

/-- take the `pick`-th message of the head group (0 when out of range) -/
def Conn.pop (k : Conn) (pick : Nat) : Option (Req × Conn) :=
  let g := headGroup k.queue
  match g[pick]? <|> g.head? with
  | none => none
  | some it => some (it.req, { k with queue := k.queue.erase it })

/-- `handler.dispatch`, the part before the scheduler: a join request first releases the updates that wait for the
    frame - they were sent before it and are for the session the connection is in now (or for none), not for the one it
    is about to join, where the same ids name other things -/
def Server.beforeDispatch (srv : Server) (k : Conn) (r : Req) : Server × Conn :=
  match r with
  | .join .. => ({ srv with ticks := srv.ticks + 1 }, k.flush (srv.ticks + 1))
  | _ => (srv, k)

/-! ### the step function -/

def Server.disconnect (cfg : Cfg) (srv : Server) (c : Nat) : Server × List Delivery :=
  let (srv, ds) := match srv.locate c with
    | some (s, p) => srv.leave cfg s p
    | none => (srv, [])
  ({ srv with conns := srv.conns.filter (·.id != c) }, ds)

def step (cfg : Cfg) (srv : Server) (e : Event) : SRes :=
  match e with
  | .connect c =>
    if (srv.findConn c).isSome then (srv, [], .ok)
    else ({ srv with conns := srv.conns ++ [{ id := c }] }, [], .ok)
  | .recv c r =>
    match srv.findConn c with
    | none => (srv, [], .ok)
    | some k =>
      match (srv.beforeDispatch k r).2.dispatch r with
      | (k', .ok) => ((srv.beforeDispatch k r).1.setConn k', [], .ok)
      | (_, o) => let (srv', ds) := (srv.beforeDispatch k r).1.disconnect cfg c; (srv', ds, o)
  | .handle c pick hint =>
    match srv.findConn c with
    | none => (srv, [], .ok)
    | some k =>
      match k.pop pick with
      | none => (srv, [], .ok)
      | some (r, k') =>
        let (srv', ds, o) := (srv.setConn k').handleReq cfg c r hint
        match o with
        | .ok => (srv', ds, .ok)
        | .connError => let (srv'', ds') := srv'.disconnect cfg c; (srv'', ds ++ ds', .connError)
        | .panic site =>
          -- the panic unwinds `handler.Handle`: no HandleDisconnect, the participant stays (a ghost)
          ({ srv' with conns := srv'.conns.filter (·.id != c) }, ds, .panic site)
  | .tick sid =>
    match srv.findSession sid with
    | none => (srv, [], .ok)
    | some s =>
      let n := srv.ticks + 1
      let members := s.parts.map (·.conn)
      ({ srv with ticks := n,
                  conns := srv.conns.map fun k => if members.contains k.id then k.flush n else k }, [], .ok)
  | .disconnect c =>
    let (srv', ds) := srv.disconnect cfg c
    (srv', ds, .ok)
  | .drain => ({ srv with forwarded := srv.forwarded ++ srv.receipts, receipts := [] }, [], .ok)

/-- a history is a list of events; the trace is everything delivered, in order -/
def run (cfg : Cfg) (srv : Server) : List Event → Server × List Delivery
  | [] => (srv, [])
  | e :: es =>
    let (srv', ds, _) := step cfg srv e
    let (srv'', ds') := run cfg srv' es
    (srv'', ds ++ ds')

end Hagall
