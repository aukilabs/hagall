/-
  C13 - component notifications follow component-type subscriptions.
-/
import Hagall.Props.C06
namespace Hagall.Props.C13
open Hagall

variable (cfg : Cfg) (s : Session) (p : Part)

theorem mem_subscribers (tid pid : Nat) : pid ∈ s.subscribers tid ↔ (tid, pid) ∈ s.subs := by
  simp only [Session.subscribers, List.mem_map, List.mem_filter, beq_iff_eq, Prod.exists, exists_eq_right]

/-- An accepted component add by `p` is relayed exactly once to every other member when the type has a
    subscriber, and to nobody while nobody is subscribed; `p` itself only gets its response. -/
theorem C13_add_notify (rid ots tid eid : Nat) (data : Bytes) (e : Entity)
    (he : s.findEnt eid = some e) (ht : (s.typeName tid).isNone = false) (hfree : (s.findComp tid e.id).isSome = false)
    (hc : (s.parts.map (·.conn)).Nodup) (hf : cfg.flags.contains fCompAdd = false) :
    let r := s.compAdd cfg p rid ots tid eid data
    let m := Out.compAddBcast ots ⟨tid, e.id, data⟩
    (s.subscribers tid ≠ [] → RelayedOnce s p.pid m r.2.1 ∧ OnlyRelay m r.2.1) ∧
    (s.subscribers tid = [] → r.2.1 = [(p.conn, .compAddResp rid)]) := by
  simp only [Session.compAdd, he, ht, hfree, Bool.false_eq_true, if_false, gate_open hf]
  refine ⟨fun hne => ?_, fun hnil => by rw [hnil]; rfl⟩
  rw [if_neg (ne_true_of_eq_false (List.isEmpty_eq_false_iff.mpr hne))]
  exact relayed_of_perm s hc p.pid (rest := [_]) (.refl _) (List.forall_mem_singleton.mpr rfl)

/-- An accepted component delete: same rule. -/
theorem C13_delete_notify (rid ots tid eid : Nat) (e : Entity)
    (he : s.findEnt eid = some e) (hpres : (s.findComp tid e.id).isNone = false)
    (hc : (s.parts.map (·.conn)).Nodup) (hf : cfg.flags.contains fCompDelete = false) :
    let r := s.compDelete cfg p rid ots tid eid
    let m := Out.compDeleteBcast ots tid e.id
    (s.subscribers tid ≠ [] → RelayedOnce s p.pid m r.2.1) ∧
    (s.subscribers tid = [] → r.2.1 = [(p.conn, .compDeleteResp rid)]) := by
  simp only [Session.compDelete, he, hpres, Bool.false_eq_true, if_false, gate_open hf]
  refine ⟨fun hne => ?_, fun hnil => by rw [hnil]; rfl⟩
  rw [if_neg (ne_true_of_eq_false (List.isEmpty_eq_false_iff.mpr hne))]
  exact (relayed_of_perm s hc p.pid List.perm_append_comm (List.forall_mem_singleton.mpr rfl)).1

/-- An update of an existing component is delivered exactly once to each subscriber of its type other
    than the author, and to nobody else (in particular to no non-subscriber, and never to the author). -/
theorem C13_update_notify (ots tid eid : Nat) (data : Bytes) (e : Entity)
    (he : s.findEnt eid = some e) (hpres : (s.findComp tid e.id).isNone = false)
    (hc : (s.parts.map (·.conn)).Nodup) (hp : (s.parts.map (·.pid)).Nodup)
    (hf : cfg.flags.contains fCompUpdate = false) :
    let r := s.compUpdate cfg p ots tid eid data
    let m := Out.compUpdateBcast ots ⟨tid, e.id, data⟩
    (∀ q ∈ s.parts, countTo q.conn m r.2.1 = if (tid, q.pid) ∈ s.subs ∧ q.pid ≠ p.pid then 1 else 0) ∧
    (∀ d ∈ r.2.1, d.2 = m ∧ ∃ q ∈ s.parts, q.pid ≠ p.pid ∧ (tid, q.pid) ∈ s.subs ∧ d.1 = q.conn) := by
  simp only [Session.compUpdate, he, hpres, Bool.false_eq_true, if_false, gate_open hf]
  rw [Session.ite_isEmpty_bcastTo]
  refine ⟨fun q hq => ?_, fun d hd => ?_⟩
  · rw [Session.count_bcastTo s hc hp p.pid _ (s.subscribers tid) q hq]
    simp only [mem_subscribers]
  · obtain ⟨h1, q, hq, hne, hin, hd1⟩ := Session.mem_bcastTo hd
    exact ⟨h1, q, hq, hne, (mem_subscribers s tid q.pid).mp hin, hd1⟩

/-- Subscribing to a registered type adds the requester to that type's subscribers and to no other set;
    subscribing to an unregistered type is refused with NOT_FOUND and changes nothing. -/
theorem C13_subscribe (rid tid : Nat) :
    ((s.typeName tid).isNone = true → s.subscribe p rid tid = (s, [(p.conn, .error rid ecNotFound)], .ok)) ∧
    ((s.typeName tid).isNone = false →
      (s.subscribe p rid tid).2 = ([(p.conn, .subscribeResp rid)], .ok) ∧
      ∀ t q, (t, q) ∈ (s.subscribe p rid tid).1.subs ↔ (t, q) ∈ s.subs ∨ (t = tid ∧ q = p.pid)) := by
  unfold Session.subscribe
  refine ⟨fun h => if_pos h, fun h => ?_⟩
  rw [if_neg (ne_true_of_eq_false h)]
  refine ⟨rfl, fun t q => ?_⟩
  dsimp only
  split
  next hc =>
    -- subscribed already: the new pair is an old one
    have hc : (tid, p.pid) ∈ s.subs := List.contains_iff_mem.mp hc
    exact ⟨Or.inl, fun h => h.elim id fun ⟨h1, h2⟩ => h1 ▸ h2 ▸ hc⟩
  · rw [List.mem_append, List.mem_singleton, Prod.mk.injEq]

/-- Unsubscribing removes the requester from that type's subscribers and changes no other subscription. -/
theorem C13_unsubscribe (rid tid : Nat) :
    (s.unsubscribe p rid tid).2 = ([(p.conn, .unsubscribeResp rid)], .ok) ∧
    ∀ t q, (t, q) ∈ (s.unsubscribe p rid tid).1.subs ↔ (t, q) ∈ s.subs ∧ ¬(t = tid ∧ q = p.pid) := by
  unfold Session.unsubscribe
  exact ⟨rfl, fun t q => by rw [List.mem_filter, bne_iff_ne, ne_eq, Prod.mk.injEq]⟩

/-- A departure ends every subscription of the leaver and no other. -/
theorem C13_leave_unsubscribes (pid : Nat) :
    ∀ t q, (t, q) ∈ (s.leave cfg pid).1.subs ↔ (t, q) ∈ s.subs ∧ q ≠ pid :=
  C06.C06_subscriptions cfg s pid

end Hagall.Props.C13
