/-
  C07 - a session is joinable exactly while it has members; no join is ever orphaned (sequential part).
  The registry invariant is `Server.WF` (Hagall/Proofs/Invariant.lean), proved for every reachable state.
-/
import Hagall.Proofs.Invariant
namespace Hagall.Props.C07
open Hagall

/-- For every history, at every moment: the registered sessions are exactly non-empty ones, no two share
    an id or a UUID, no registered id is waiting in the pool of released ids, and the session gauge equals
    the number of registered sessions. -/
theorem C07_registry_invariant (cfg : Cfg) (h : List Event) :
    let srv := (run cfg {} h).1
    (srv.sessions.map (·.id)).Nodup ∧ (srv.sessions.map (·.uuid)).Nodup ∧
    (∀ s ∈ srv.sessions, s.parts ≠ []) ∧ (∀ s ∈ srv.sessions, s.id ∉ srv.ids.pool) ∧
    srv.gauge = srv.sessions.length := by
  have hw := run_WF cfg h Server.WF_init
  exact ⟨hw.ids_nodup, hw.uuid_nodup, fun s hs => (hw.members s hs).nonempty,
         fun s hs => (hw.id_range s hs).2.2, hw.gauge_eq⟩

def Resolves (srv : Server) : JoinTarget → Prop
  | .new => True
  | .id n => (srv.findSession n).isSome
  | .bogus => False

theorem resolves_iff (srv : Server) (t : JoinTarget) : srv.resolves t = true ↔ Resolves srv t := by
  cases t <;> simp [Server.resolves, Resolves]

/-- A join whose target does not resolve is refused with NOT_FOUND and leaves the registry untouched. -/
theorem C07_join_refused (cfg : Cfg) (srv : Server) (c rid ots hint : Nat) (target : JoinTarget)
    (h : ¬ Resolves srv target) :
    srv.joinFresh cfg c rid ots target hint = (srv, [(c, .error rid ecNotFound)], .ok) := by
  refine Server.joinFresh_cases (motive := fun res => res = (srv, [(c, .error rid ecNotFound)], .ok)) cfg srv c rid ots target hint
    (fun _ => rfl) (fun s ht _ hf => absurd ?_ h) (fun ht => absurd (ht ▸ trivial) h)
  rw [ht, Resolves, hf]
  rfl

/-- A join whose target resolves is answered first with a join response naming a session id, UUID and
    participant id such that, afterwards, that id resolves to a registered session with that UUID in which
    the requester is the participant with that id: a successful join is never orphaned. -/
theorem C07_join_live (cfg : Cfg) (srv : Server) (hw : srv.WF) (c rid ots hint : Nat) (target : JoinTarget)
    (hfresh : ∀ x ∈ srv.sessions, ∀ q ∈ x.parts, q.conn ≠ c) (h : Resolves srv target) :
    ∃ s pid rest, (srv.joinFresh cfg c rid ots target hint).2.1 = (c, Out.joinResp rid s.id s.uuid pid) :: rest ∧
      (srv.joinFresh cfg c rid ots target hint).1.findSession s.id = some s ∧ ⟨pid, c⟩ ∈ s.parts := by
  refine Server.joinFresh_cases cfg srv c rid ots target hint
    (motive := fun res => res.1.WF → ∃ s pid rest, res.2.1 = (c, Out.joinResp rid s.id s.uuid pid) :: rest ∧
      res.1.findSession s.id = some s ∧ ⟨pid, c⟩ ∈ s.parts)
    (fun hn => ?_) (fun s _ hs _ hw' => ?_) (fun _ hw' => ?_) (Server.joinFresh_WF cfg hw c rid ots target hint hfresh)
  · exact absurd ((resolves_iff srv target).2 h) (hn ▸ Bool.false_ne_true)
  · exact ⟨(s.addPart c).1, (s.addPart c).2.pid, _, rfl, findSession_of_mem hw'.ids_nodup (mem_setSession_self hs rfl),
      List.mem_append_right _ (List.mem_singleton_self _)⟩
  · exact ⟨_, 1, _, rfl, findSession_of_mem hw'.ids_nodup (List.mem_append_right _ (List.mem_singleton_self _)),
      List.mem_singleton_self _⟩

/-- When the last participant leaves, the session ends: its id no longer resolves, is released for
    reuse, and the gauge drops by one. -/
theorem C07_last_departure (cfg : Cfg) (srv : Server) (hw : srv.WF) (s : Session) (p : Part) (hs : s ∈ srv.sessions)
    (hlast : s.parts = [p]) :
    let srv' := (srv.leave cfg s p).1
    srv'.findSession s.id = none ∧ s.id ∈ srv'.ids.pool ∧ srv'.gauge = srv.gauge - 1 := by
  have hparts : (s.leave cfg p.pid).1.parts = [] := by
    show s.parts.filter _ = []
    rw [hlast]; simp
  simp only [Server.leave_fst, hparts, List.isEmpty_nil, if_true]
  exact ⟨find_filter_key_ne (f := Session.id) srv.sessions s.id, (IdGen.mem_reuse_pool ..).mpr (.inr rfl), trivial⟩

/-- While other participants remain, a departure leaves the session registered under the same id and UUID. -/
theorem C07_departure_keeps (cfg : Cfg) (srv : Server) (hw : srv.WF) (s : Session) (p : Part) (hs : s ∈ srv.sessions)
    (hmore : (s.parts.filter (·.pid != p.pid)) ≠ []) :
    ∃ s', (srv.leave cfg s p).1.findSession s.id = some s' ∧ s'.uuid = s.uuid ∧
      s'.parts = s.parts.filter (·.pid != p.pid) := by
  have hw' := Server.leave_WF cfg hw (p := p) hs
  rw [leave_of_remaining hmore] at hw' ⊢
  exact ⟨_, findSession_of_mem (s := (s.leave cfg p.pid).1) hw'.ids_nodup (mem_setSession_self hs rfl), rfl, rfl⟩

/-- A session created under a (possibly reused) id starts empty - no entities, components, types,
    subscriptions, actions, assets, samples - with the creator as participant 1 and a UUID no earlier
    session had. -/
theorem C07_fresh_session (cfg : Cfg) (srv : Server) (hw : srv.WF) (c rid ots hint : Nat) :
    let srv' := (srv.joinFresh cfg c rid ots .new hint).1
    ∃ s ∈ srv'.sessions, s.parts = [⟨1, c⟩] ∧ s.ents = [] ∧ s.comps = [] ∧ s.types = [] ∧ s.subs = [] ∧
      s.actions = [] ∧ s.assets = [] ∧ s.quads = [] ∧ s.uuid = srv.uuidCur + 1 ∧ (∀ t ∈ srv.sessions, t.uuid ≠ s.uuid) := by
  refine ⟨_, List.mem_append_right _ (List.mem_singleton_self _), rfl, rfl, rfl, rfl, rfl, rfl, rfl, rfl, rfl, fun t ht => ?_⟩
  have := (hw.uuid_range t ht).2
  exact Nat.ne_of_lt (Nat.lt_succ_of_le this)

end Hagall.Props.C07
