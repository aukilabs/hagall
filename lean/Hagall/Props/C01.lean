/-
  C01 - every participant's view converges to the server's session state (sequential histories).

  `Spec.View` is what a client holds: the state it was handed on joining, updated by every broadcast it receives
  (`View.apply`).  `Session.pic` is the server's state of a session in the same shape.  For every request of a
  participant `p`, accepted, refused or malformed, and every *other* member `q`:

      applying to the server's state before the request everything `q` is sent during the request
      yields the server's state after the request, and every one of those broadcasts is applicable

  (`C01_request`; likewise `C01_leave` for every way of leaving and `C01_join_others` / `C01_newcomer` for joins).
  Hence by induction a member whose view equals the server state when it joins (`C01_newcomer`: it is handed
  exactly that state) holds the server state after every later event, and a newcomer joining at any moment is
  handed what everybody else holds.

  Scope (see DESIGN.md 0.3, finding F13): this is the participant / entity / pose / action / asset part of the view,
  with no DISABLE_* flag set.  The *component* part is not a theorem because the code does not have the property:
  a component added while its type has no subscriber is announced to nobody (`C01_component_gap` exhibits the
  three-request counterexample on the model; the same history fails on the real server, corpus/F13-*.hist).
-/
import Hagall.Spec.Views
import Hagall.Proofs.DataInv
import Hagall.Proofs.Invariant
namespace Hagall
open Spec

/-- the server's state of a session in the shape of a client view (components apart) -/
def Session.pic (s : Session) : View :=
  { uuid := s.uuid, pid := 0, pids := s.pids, ents := s.ents.map Entity.view, comps := [], actions := s.actions, assets := s.assets }

theorem inbox_bcastTo_all {t : Session} (c sender : Nat) (m : Out) (pids : List Nat) :
    ∀ o ∈ inboxOf c (t.bcastTo sender m pids), o = m :=
  fun _ ho => (Session.mem_bcastTo (mem_inboxOf.mp ho)).1

theorem applyAllCore_append (v : View) (a b : List Out) :
    v.applyAllCore (a ++ b) = (v.applyAllCore a).bind (·.applyAllCore b) := by
  induction a generalizing v with
  | nil => simp [View.applyAllCore]
  | cons m ms ih =>
    simp only [List.cons_append, View.applyAllCore]
    cases v.applyCore m with
    | none => rfl
    | some v' => simp [ih]

/-- broadcasts that do not concern the participant / entity / action / asset part of a view -/
def Out.neutral : Out → Bool
  | .joinBcast .. | .leaveBcast .. | .entityAddBcast .. | .entityDeleteBcast .. | .poseBcast .. | .actionBcast .. | .assetAddBcast .. => false
  | _ => true

theorem applyCore_neutral (v : View) (o : Out) (h : o.neutral = true) : v.applyCore o = some v := by
  cases o
  case joinBcast | leaveBcast | entityAddBcast | entityDeleteBcast | poseBcast | actionBcast | assetAddBcast => cases h
  all_goals rfl

theorem applyAllCore_neutral (v : View) (l : List Out) (h : ∀ o ∈ l, o.neutral = true) : v.applyAllCore l = some v := by
  induction l with
  | nil => rfl
  | cons m ms ih =>
    simp only [View.applyAllCore, applyCore_neutral v m (h m (List.mem_cons_self ..)), Option.bind_some]
    exact ih fun o ho => h o (List.mem_cons_of_mem _ ho)

def Neu (c : Nat) (ds : List Delivery) : Prop := ∀ d ∈ ds, d.1 = c ∨ d.2.neutral = true

theorem Neu.nil {c : Nat} : Neu c [] := by intro d h; cases h
theorem Neu.cons_self {c : Nat} {m : Out} {ds : List Delivery} (h : Neu c ds) : Neu c ((c, m) :: ds) :=
  List.forall_mem_cons.2 ⟨Or.inl rfl, h⟩
theorem Neu.append {c : Nat} {a b : List Delivery} (ha : Neu c a) (hb : Neu c b) : Neu c (a ++ b) :=
  List.forall_mem_append.2 ⟨ha, hb⟩
theorem Neu.gate {c : Nat} {cfg : Cfg} {f : String} {ds : List Delivery} (h : Neu c ds) : Neu c (gate cfg f ds) :=
  forall_mem_gate h
theorem Neu.bcast {c : Nat} (t : Session) (a : Nat) {m : Out} (hm : m.neutral = true) : Neu c (t.bcast a m) :=
  Session.forall_mem_bcast fun _ _ _ => Or.inr hm
theorem Neu.bcastTo {c : Nat} (t : Session) (a : Nat) {m : Out} (pids : List Nat) (hm : m.neutral = true) : Neu c (t.bcastTo a m pids) :=
  Session.forall_mem_bcastTo fun _ _ _ => Or.inr hm

theorem Neu.inbox {p q : Part} (h : p.conn ≠ q.conn) {ds : List Delivery} (hn : Neu p.conn ds) :
    ∀ m ∈ inboxOf q.conn ds, m.neutral = true :=
  fun _ hm => (hn _ (mem_inboxOf.mp hm)).resolve_left fun e => h e.symm

theorem Answers.neu {c : Nat} {ds : List Delivery} (h : Answers c ds) : Neu c ds := fun d hd => .inl (h d hd).1

theorem Neu.abandoned (s : Session) (p : Part) : Neu p.conn (s.abandoned p) := (Answers.abandoned s p).neu

/-- the standing assumptions: `p` sends, `q` is another member of the same session, no flag is set -/
structure Ctx (cfg : Cfg) (s : Session) (p q : Part) : Prop where
  flags : cfg.flags = []
  conns : (s.parts.map (·.conn)).Nodup
  hq : q ∈ s.parts
  pid_ne : q.pid ≠ p.pid
  conn_ne : p.conn ≠ q.conn

theorem Ctx.of_members {cfg : Cfg} {s : Session} {p q : Part} (hf : cfg.flags = []) (hm : s.MembersOK)
    (hp : p ∈ s.parts) (hq : q ∈ s.parts) (hne : q.pid ≠ p.pid) : Ctx cfg s p q :=
  ⟨hf, hm.conns_nodup, hq, hne, fun h => hne (congrArg Part.pid (eq_of_nodup_map hm.conns_nodup hq hp h.symm))⟩

/-- what `q` makes of a handler result computed on `t`: it can apply everything it is sent, and ends up with
    the server's new state -/
def Step (q : Part) (r : Res) (t : Session) : Prop :=
  r.1.parts = t.parts ∧ t.pic.applyAllCore (inboxOf q.conn r.2.1) = some r.1.pic

theorem Step.of_neu {p q : Part} (h : p.conn ≠ q.conn) {t t' : Session} {ds : List Delivery} {o : Outcome}
    (hn : Neu p.conn ds) (hparts : t'.parts = t.parts := by rfl) (hpic : t'.pic = t.pic := by rfl) : Step q (t', ds, o) t :=
  ⟨hparts, by rw [applyAllCore_neutral _ _ (hn.inbox h), hpic]⟩

/-- Steps compose, each under the hypothesis that the participants are still those of the session `s` the request
    found: `Ctx` is known of `s` only, and `Ctx.of_parts` carries it to a state with the same participants. -/
theorem Step.bind {q : Part} {s t u : Session} {ds : List Delivery} {r' : Res}
    (h1 : t.parts = s.parts → Step q (u, ds, .ok) t) (h2 : u.parts = s.parts → Step q r' u) (ht : t.parts = s.parts) :
    Step q (r'.1, ds ++ r'.2.1, r'.2.2) t := by
  obtain ⟨a1, a2⟩ := h1 ht
  obtain ⟨b1, b2⟩ := h2 (a1.trans ht)
  refine ⟨b1.trans a1, ?_⟩
  simp only [inbox_append, applyAllCore_append, a2, Option.bind_some]
  exact b2

theorem Ctx.of_parts {cfg : Cfg} {s t : Session} {p q : Part} (hx : Ctx cfg s p q) (ht : t.parts = s.parts) : Ctx cfg t p q :=
  ⟨hx.flags, ht ▸ hx.conns, ht ▸ hx.hq, hx.pid_ne, hx.conn_ne⟩

theorem pic_of_eq {t t' : Session} (h1 : t'.uuid = t.uuid) (h2 : t'.parts = t.parts) (h3 : t'.ents = t.ents)
    (h4 : t'.actions = t.actions) (h5 : t'.assets = t.assets) : t'.pic = t.pic := by
  simp [Session.pic, Session.pids, h1, h2, h3, h4, h5]

theorem setAction_pic (t : Session) (a : Action) : (t.setAction a).pic = { t.pic with actions := Spec.setAction t.actions a } := by
  conv => lhs; rw [Session.setAction_eq]
  rw [Session.setAction_upsert]
  rfl

theorem setAsset_pic (t : Session) (a : Asset) : (t.setAsset a).pic = { t.pic with assets := Spec.setAsset t.assets a } := by
  have := Session.setAsset_eq t a t.assetCur
  conv => lhs; rw [show t.setAsset a = _ from this]
  rw [Session.setAsset_upsert]
  rfl

/-- what a module does is seen by `q` as it is: an action set, an asset added, or nothing (the clean-up after an
    entity delete is another matter: `delete_step`) -/
theorem Session.SideEffect.step {cfg : Cfg} {t : Session} {p q : Part} {r : Req} {res : Res} (hx : Ctx cfg t p q)
    (h : t.SideEffect cfg p r res) (hr : r.isEntityDelete = false) : Step q res t := by
  cases h
  case answered h => exact .of_neu hx.conn_ne h.neu
  case actionsDropped => cases hr
  case assetsDropped => cases hr
  case quads => exact .of_neu hx.conn_ne .nil
  case action =>
    refine ⟨rfl, ?_⟩
    rw [inbox_cons_ne hx.conn_ne, inbox_bcast rfl hx.conns hx.hq _ _ hx.pid_ne]
    rw [Session.setAction_upsert]
    rfl
  case assetAdd =>
    refine ⟨rfl, ?_⟩
    rw [inbox_cons_ne hx.conn_ne, inbox_bcast rfl hx.conns hx.hq _ _ hx.pid_ne]
    rw [Session.setAsset_upsert]
    rfl

theorem view_map_pose (l : List Entity) (eid v : Nat) :
    (l.map fun x => if x.id == eid then { x with pose := v } else x).map Entity.view =
      (l.map Entity.view).map fun x => if x.id == eid then { x with pose := v } else x := by
  simp only [List.map_map]
  apply List.map_congr_left
  intro x _
  simp only [Function.comp, Entity.view]
  by_cases h : (x.id == eid) = true <;> simp [h]

theorem pic_hasEnt (t : Session) (eid : Nat) : t.pic.hasEnt eid = (t.findEnt eid).isSome := by
  simp only [Session.pic, View.hasEnt, Session.findEnt, List.any_map, Entity.view, Function.comp_def]
  rw [Bool.eq_iff_iff, List.any_eq_true, List.find?_isSome]

/-- what a core request does is seen by `q` as it is: a new entity (under an id `q` has not seen: ids only grow),
    a new pose of an entity `q` has, or nothing that concerns the picture -/
theorem Session.Effect.step {cfg : Cfg} {s : Session} {p q : Part} {r : Req} {g : Cfg → Res}
    (hx : Ctx cfg s p q) (hI : s.DataOK) (h : s.Effect cfg p r g) (hr : r.isEntityDelete = false) : Step q (g cfg) s := by
  cases h
  case side h => exact h.step hx hr
  case pinged h | measured h => exact .of_neu hx.conn_ne h.neu
  case entityDelete => cases hr
  case entityAdd =>
    refine ⟨rfl, ?_⟩
    dsimp only
    rw [inbox_cons_ne hx.conn_ne, gate_off hx.flags, inbox_bcast rfl hx.conns hx.hq _ _ hx.pid_ne]
    have hfresh : s.pic.hasEnt (s.eidCur + 1) = false := by
      rw [pic_hasEnt]
      cases hf : s.findEnt (s.eidCur + 1) with
      | none => rfl
      | some e => have := hI.eid_range e (findEnt_some_mem hf).1; have := (findEnt_some_mem hf).2; omega
    simp only [View.applyAllCore, View.applyCore, hfresh, Bool.false_eq_true, if_false, Option.bind_some]
    simp [Session.pic, Session.pids, Entity.view]
  case updatePose e v he _ =>
    refine ⟨rfl, ?_⟩
    dsimp only
    rw [gate_off hx.flags, inbox_bcast rfl hx.conns hx.hq _ _ hx.pid_ne]
    have hhas := (pic_hasEnt s e.id).trans (findEnt_isSome_of_some he)
    simp only [View.applyAllCore, View.applyCore, hhas, if_true, Option.bind_some]
    simp only [Session.pic, Session.pids, view_map_pose]
  case custom => exact .of_neu hx.conn_ne (.gate (by split; exact .bcastTo _ _ _ rfl; exact .bcast _ _ rfl))
  case compAdd => exact .of_neu hx.conn_ne (.cons_self (.gate (by split; exact .nil; exact .bcast _ _ rfl)))
  case compDelete => exact .of_neu hx.conn_ne (.append (.gate (by split; exact .nil; exact .bcast _ _ rfl)) (.cons_self .nil))
  case compUpdate => exact .of_neu hx.conn_ne (.gate (.bcastTo _ _ _ rfl))
  case typeAdd | subscribe | unsubscribe => exact .of_neu hx.conn_ne (.cons_self .nil)

theorem handle_step {cfg : Cfg} {s : Session} {p q : Part} (hx : Ctx cfg s p q) (hI : s.DataOK) (r : Req)
    (hr : r.isEntityDelete = false) (hint : Nat) : Step q (s.handle cfg p r hint) s :=
  -- `DataOK` (the new entity's id) is known of `s` only, where the core handler runs; the modules need `Ctx` alone
  Session.handle_induction_from (Q := fun t res => t.parts = s.parts → Step q res t) cfg p r hint Step.bind
    (fun _ => (s.core_effect cfg p hint r).step hx hI hr) (fun _ _ h ht => h.step (hx.of_parts ht) hr) rfl

theorem filter_view (l : List Entity) (eid : Nat) :
    (l.filter (·.id != eid)).map Entity.view = (l.map Entity.view).filter (·.id != eid) :=
  (List.filter_map (f := Entity.view) (p := (·.id != eid))).symm

theorem dropAttached_of_inv {cfg : Cfg} {s : Session} (hV : cfg.vikja = false → s.actions = [])
    (hO : cfg.odal = false → s.assets = []) (eid : Nat) :
    s.dropAttached cfg eid =
      { s with actions := s.actions.filter (·.eid != eid), assets := s.assets.filter (·.eid != eid) } := by
  rw [Session.dropAttached, ite_filter_of_nil hV, ite_filter_of_nil hO]

theorem delete_step {cfg : Cfg} {s : Session} {p q : Part} (hx : Ctx cfg s p q) (hI : s.Inv cfg) (rid ots eid hint : Nat) :
    Step q (s.handle cfg p (.entityDelete rid ots eid) hint) s := by
  obtain ⟨hD, hV, hO⟩ := hI
  rw [Session.handle_entityDelete]
  cases he : s.findEnt eid with
  | none =>
    -- refused; nothing is attached to an entity that is not there, so the hooks drop nothing
    rw [dropAttached_of_inv hV hO, filter_attached hD.act_ent he, filter_attached hD.asset_ent he]
    exact .of_neu hx.conn_ne (.cons_self .nil)
  | some e =>
    simp only []
    split
    · exact .of_neu hx.conn_ne (.cons_self .nil)
    · -- the owner deletes: everybody else is told, and drops the entity with what hangs on it
      refine ⟨rfl, ?_⟩
      rw [inbox_cons_ne hx.conn_ne, gate_off hx.flags, inbox_bcast rfl hx.conns hx.hq _ _ hx.pid_ne,
        dropAttached_of_inv (s := s.removeEntity e.id) hV hO]
      have hhas := (pic_hasEnt s e.id).trans (findEnt_isSome_of_some he)
      simp only [View.applyAllCore, View.applyCore, hhas, if_true, Option.bind_some]
      simp only [Session.removeEntity, Session.pic, Session.pids, View.dropEntity, filter_view, List.filter_nil]

/-- **C01, one request.** With no flag set, for every request of participant `p` - accepted, refused or
    malformed, core or module - every other member `q` of the session can apply everything it is sent during
    the request (nothing is inapplicable), and doing so to the server's state before the request yields the
    server's state after it (participants, entities with owner, flag and pose, entity actions, asset instances). -/
theorem C01_request (cfg : Cfg) (hf : cfg.flags = []) (s : Session) (hI : s.Inv cfg) (hM : s.MembersOK)
    (p q : Part) (hp : p ∈ s.parts) (hq : q ∈ s.parts) (hne : q.pid ≠ p.pid) (r : Req) (hint : Nat) :
    s.pic.applyAllCore (inboxOf q.conn (s.handle cfg p r hint).2.1) = some (s.handle cfg p r hint).1.pic := by
  have hx := Ctx.of_members hf hM hp hq hne
  cases hr : r.isEntityDelete with
  | false => exact (handle_step hx hI.1 r hr hint).2
  | true =>
    cases r <;> simp [Req.isEntityDelete] at hr
    exact (delete_step hx hI _ _ _ hint).2

def Spec.View.dropAll (v : View) (ids : List Nat) : View :=
  { v with ents := v.ents.filter (fun e => !ids.contains e.id), comps := v.comps.filter (fun c => !ids.contains c.eid),
           actions := v.actions.filter (fun a => !ids.contains a.eid), assets := v.assets.filter (fun a => !ids.contains a.eid) }

theorem filter_filter_contains {α : Type} (l : List α) (key : α → Nat) (i : Nat) (ids : List Nat) :
    (l.filter (fun a => key a != i)).filter (fun a => !ids.contains (key a)) = l.filter (fun a => !(i :: ids).contains (key a)) := by
  rw [List.filter_filter]
  apply List.filter_congr
  intro a _
  by_cases h : key a = i
  · simp [h]
  · have h' : (key a == i) = false := by simpa using h
    simp [h', bne, h]

theorem dropEntity_dropAll (v : View) (i : Nat) (ids : List Nat) : (v.dropEntity i).dropAll ids = v.dropAll (i :: ids) := by
  simp only [View.dropEntity, View.dropAll]
  congr 1
  · exact filter_filter_contains v.ents (·.id) i ids
  · exact filter_filter_contains v.comps (·.eid) i ids
  · exact filter_filter_contains v.actions (·.eid) i ids
  · exact filter_filter_contains v.assets (·.eid) i ids

theorem dropAll_nil (v : View) : v.dropAll [] = v := by
  cases v
  simp [View.dropAll, List.filter_eq_self]

theorem hasEnt_dropEntity (v : View) (i j : Nat) (h : j ≠ i) : (v.dropEntity i).hasEnt j = v.hasEnt j := by
  simp only [View.dropEntity, View.hasEnt, List.any_filter]
  congr 1
  funext x
  by_cases hx : x.id = j
  · simp [hx, h]
  · have : (x.id == j) = false := by simpa using hx
    simp [this]

theorem applyAllCore_deletes : ∀ (ids : List Nat) (v : View) (ots : Option Nat), ids.Nodup → (∀ i ∈ ids, v.hasEnt i = true) →
    v.applyAllCore (ids.map fun i => Out.entityDeleteBcast ots i) = some (v.dropAll ids) := by
  intro ids
  induction ids with
  | nil => intro v _ _ _; simp [View.applyAllCore, dropAll_nil]
  | cons i is ih =>
    intro v ots hnd hall
    simp only [List.nodup_cons] at hnd
    simp only [List.map_cons, View.applyAllCore, View.applyCore, hall i (List.mem_cons_self ..), if_true, Option.bind_some]
    rw [ih (v.dropEntity i) ots hnd.2 (fun j hj => by
      rw [hasEnt_dropEntity v i j (fun h => hnd.1 (h ▸ hj))]; exact hall j (List.mem_cons_of_mem _ hj))]
    rw [dropEntity_dropAll]

/-- **C01, departures.** When participant `pid` leaves (disconnect, handler error, session switch), every remaining
    member can apply everything it is sent - one delete per non-persistent entity of the leaver, then the leave -
    and ends up with the server's state after the departure. -/
theorem C01_leave (cfg : Cfg) (hf : cfg.flags = []) (s : Session) (hI : s.Inv cfg) (hM : s.MembersOK)
    (pid : Nat) (hpid : pid ∈ s.pids) (q : Part) (hq : q ∈ s.parts) (hne : q.pid ≠ pid) :
    s.pic.applyAllCore (inboxOf q.conn (s.leave cfg pid).2) = some (s.leave cfg pid).1.pic := by
  obtain ⟨hD, hV, hO⟩ := hI
  -- what `q` is sent: one delete per doomed entity, then the leave
  rw [Session.leave_deliveries]
  simp only [gate_off hf, inbox_append, Session.bcast]
  rw [inbox_flatMap_bcast hM.conns_nodup hq pid hne (fun eid => Out.entityDeleteBcast none eid),
    inbox_bcast_parts hM.conns_nodup hq pid (Out.leaveBcast pid) hne, applyAllCore_append]
  -- the deletes: distinct entities the view has
  have hdead_nodup : ((s.doomed pid).map (·.id)).Nodup :=
    ((List.filter_sublist (l := s.ents)).map _).nodup hD.eids_nodup
  have hdead_has : ∀ i ∈ (s.doomed pid).map (·.id), s.pic.hasEnt i = true := by
    intro i hi
    obtain ⟨e, he, rfl⟩ := List.mem_map.mp hi
    rw [pic_hasEnt]
    exact (findEnt_isSome_iff s e.id).mpr ⟨e, (List.mem_filter.mp he).1, rfl⟩
  rw [applyAllCore_deletes _ s.pic none hdead_nodup hdead_has]
  have hin : (s.pic.dropAll ((s.doomed pid).map (·.id))).pids.contains pid = true := List.contains_iff_mem.mpr hpid
  simp only [Option.bind_some, View.applyAllCore, View.applyCore, hin, if_true, Option.some.injEq]
  -- the server's state after the departure: ids are unique, so an entity is doomed exactly when its id is
  have hents : s.ents.filter (fun e => !(e.owner == pid && !e.persist)) =
      s.ents.filter (fun e => !((s.doomed pid).map (·.id)).contains e.id) := by
    refine List.filter_congr fun e he => congrArg (!·) ?_
    rw [Bool.eq_iff_iff, List.contains_eq_mem, decide_eq_true_eq, List.mem_map]
    constructor
    · exact fun hd => ⟨e, List.mem_filter.mpr ⟨he, hd⟩, rfl⟩
    · rintro ⟨e', he', hid⟩
      have hm := List.mem_filter.mp he'
      exact eq_of_nodup_map hD.eids_nodup hm.1 he hid ▸ hm.2
  simp only [Session.leave, Session.pic, Session.pids, View.dropAll, hents, ite_filter_of_nil hV, ite_filter_of_nil hO, List.filter_nil,
    List.filter_map, Function.comp_def]
  rfl

/-- **C01, newcomer.** With no flag set, a successful join hands the newcomer exactly the server's state of the
    session it enters (itself included): participants, entities, all components, and the modules' entity actions
    and asset instances. -/
theorem C01_newcomer (cfg : Cfg) (hf : cfg.flags = []) (s : Session) (p : Part) (rid ots : Nat) :
    inboxOf p.conn (joinDeliveries cfg s p rid ots) =
      [Out.joinResp rid s.id s.uuid p.pid, Out.sessionState s.pids (s.ents.map Entity.view) s.comps]
        ++ inboxOf p.conn (s.bcast p.pid (.joinBcast ots p.pid))
        ++ (if cfg.vikja then [Out.vikjaState s.actions] else []) ++ (if cfg.odal then [Out.odalState s.assets] else []) := by
  have self : ∀ (m : Out) (ds : List Delivery), inboxOf p.conn ((p.conn, m) :: ds) = m :: inboxOf p.conn ds := fun m ds => by
    simp only [inboxOf, List.filterMap_cons, beq_self_eq_true, if_true]
  have opt : ∀ (b : Bool) (m : Out), inboxOf p.conn (if b then [(p.conn, m)] else []) = if b then [m] else [] := fun b m => by
    cases b
    · rfl
    · exact self m []
  simp only [joinDeliveries, gate_off hf, inbox_append, self, opt, inbox_nil]

/-- **C01, a join seen by the others.** Every member of the session that is joined is sent the join broadcast, can
    apply it (the participant id is new), and ends up with the server's state after the join. -/
theorem C01_join_others (cfg : Cfg) (hf : cfg.flags = []) (s : Session) (hM : s.MembersOK) (c rid ots : Nat)
    (hc : c ∉ s.parts.map (·.conn)) (q : Part) (hq : q ∈ s.parts) :
    s.pic.applyAllCore (inboxOf q.conn (joinDeliveries cfg (s.addPart c).1 (s.addPart c).2 rid ots)) = some (s.addPart c).1.pic := by
  have hqc : c ≠ q.conn := fun h => hc (List.mem_map.mpr ⟨q, hq, h.symm⟩)
  have hpid : q.pid ≠ s.pidCur + 1 := by have := (hM.pid_pos q hq).2; omega
  have hnodup : ((s.parts ++ [(⟨s.pidCur + 1, c⟩ : Part)]).map (·.conn)).Nodup :=
    (hM.addPart (c := c) fun x hx h => hc (List.mem_map.mpr ⟨x, hx, h⟩)).conns_nodup
  -- what the newcomer is answered is not `q`'s; of the rest `q` gets the join broadcast
  have nil : ∀ {ds : List Delivery}, (∀ d ∈ ds, d.1 = c) → inboxOf q.conn ds = [] := inbox_of_self_only hqc
  simp only [joinDeliveries, gate_off hf, inbox_append, Session.addPart, Session.bcast]
  have opt : ∀ (b : Bool) (m : Out), ∀ d ∈ (if b then [(c, m)] else []), d.1 = c := fun b m d hd => by
    cases b
    · cases hd
    · rw [List.mem_singleton.mp hd]
  rw [nil (List.forall_mem_cons.2 ⟨rfl, List.forall_mem_singleton.2 rfl⟩),
    inbox_bcast_parts hnodup (List.mem_append_left _ hq) _ _ hpid, nil (opt _ _), nil (opt _ _)]
  have hfresh : s.pic.pids.contains (s.pidCur + 1) = false := by
    simp only [Session.pic, Session.pids, List.contains_eq_mem, List.mem_map, decide_eq_false_iff_not, not_exists, not_and]
    intro x hx hxe
    have := (hM.pid_pos x hx).2; omega
  simp only [List.nil_append, List.append_nil, View.applyAllCore, View.applyCore, hfresh, Bool.false_eq_true, if_false,
    Option.bind_some]
  simp [Session.pic, Session.pids]

/-! ### the component part does not converge (finding F13) -/

/-- A two-member session with a registered component type and one entity, nobody subscribed. -/
def gapSession : Session :=
  { id := 1, uuid := 1, pidCur := 2, parts := [⟨1, 1⟩, ⟨2, 2⟩], eidCur := 1,
    ents := [{ id := 1, owner := 1, persist := false, flag := 0, pose := 0 }], tidCur := 1, types := [(1, "t")] }

/-- **The component gap.**  Participant 1 adds a component while its type has no subscriber: nobody is told.
    Participant 2 then subscribes to the type and participant 1 updates the component: participant 2, whose view
    was the server's state when the history began, is sent an update of a component it was never told about and
    cannot apply it.  (The same history fails on the real server: corpus/F13-component-added-without-subscribers.hist.) -/
theorem C01_component_gap :
    let cfg : Cfg := {}
    let s0 := gapSession
    let r1 := s0.handle cfg ⟨1, 1⟩ (.compAdd 5 105 1 1 [1]) 0
    let r2 := r1.1.handle cfg ⟨2, 2⟩ (.subscribe 6 1) 0
    let r3 := r2.1.handle cfg ⟨1, 1⟩ (.compUpdate 107 1 1 [2]) 0
    ({ s0.pic with comps := s0.comps } : View).applyAll (inboxOf 2 (r1.2.1 ++ r2.2.1 ++ r3.2.1)) = none ∧
    inboxOf 2 (r1.2.1 ++ r2.2.1 ++ r3.2.1) = [Out.subscribeResp 6, Out.compUpdateBcast 107 ⟨1, 1, [2]⟩] := by
  decide

end Hagall
