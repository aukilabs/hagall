/-
  C11 - pose updates are relayed in order, coalesced per frame; the latest one arrives.

  The scheduler of a connection (hagall-common `scheduler`: a map of pending pose updates keyed by entity,
  flushed into the FIFO queue on every frame tick, from which the main loop consumes - items flushed by one
  tick in arbitrary order) is `Conn.dispatch / flush / pop` of the model.  For *every* interleaving of
  receives, frame ticks and consumptions on a connection, whatever arrives and whichever flushed item the
  main loop happens to take:

  * `C11_order`: the pose updates of an entity that have been consumed, followed by those still in flight
    (queued, then pending), are a subsequence of the ones received, in the order received - nothing is
    reordered, nothing repeated - and the most recent one received is always the last of them: it is never
    the one that is skipped;
  * `C11_latest_arrives`: hence, once nothing for the entity is in flight any more, the last update consumed
    is the last one received.

  What the handler does with a consumed update is `Session.updatePose`: `C11_applied` (owner, entity present,
  pose present: the pose is stored and it is the stored pose that is relayed and that newcomers are handed),
  `C11_dropped` (unknown or foreign entity, or no pose: nothing changes, nothing is sent), `C11_gone_stays_gone`
  (once an entity is deleted no update of it is ever applied again: its id is not reissued).
  Frame timing itself (how many wall-clock frames "a few" is) is outside the model.
-/
import Hagall.Proofs.DataInv
import Hagall.Props.C05
import Hagall.Props.C10
namespace Hagall

def Req.poseOf (e : Nat) : Req → Bool
  | .updatePose _ e' (some _) => e' == e
  | _ => false

def posesFor (e : Nat) (l : List Req) : List Req := l.filter (Req.poseOf e)

/-- what is still on its way for entity `e`: queued (oldest first), then pending -/
def Conn.inflight (k : Conn) (e : Nat) : List Req :=
  posesFor e (k.queue.map (·.req)) ++ posesFor e (k.pendPose.map (·.2))

inductive COp
  | recv (r : Req)          -- receiver goroutine: Dispatch
  | tick (n : Nat)          -- frame worker: HandleFrame, during tick number n
  | handle (pick : Nat)     -- main loop: take one message of the head group
deriving Repr

/-- state of the argument: the connection, what was received and what was consumed so far, the last tick -/
structure CState where
  k : Conn
  sent : List Req := []
  handled : List Req := []
  lastTick : Nat := 0

def CState.step (st : CState) : COp → CState
  | .recv r => { st with k := (st.k.dispatch r).1, sent := st.sent ++ [r] }
  -- the server numbers its ticks with one counter (`Server.ticks`), so the numbers a connection sees increase; a tick
  -- with any other number is no behaviour of the server and changes nothing: "every interleaving" in `C11_order` rests on that
  | .tick n => if st.lastTick < n then { st with k := st.k.flush n, lastTick := n } else st
  | .handle pick =>
    match st.k.pop pick with
    | some (r, k') => { st with k := k', handled := st.handled ++ [r] }
    | none => st

def CState.run (st : CState) (ops : List COp) : CState := ops.foldl CState.step st

/-- scheduler invariant (the part that speaks about the connection only; `t` is the last tick) -/
structure QInv (k : Conn) (t : Nat) : Prop where
  /-- pending updates are keyed by their own entity, one per entity -/
  pendKeys : ∀ q ∈ k.pendPose, q.2.poseOf q.1 = true
  pendNodup : (k.pendPose.map (·.1)).Nodup
  /-- a flushed component update must not count as a pose update of any entity (`flush_inflight`, `flush_QInv`) -/
  pendComp : ∀ q ∈ k.pendComp, q.2.isPose = false
  /-- a queued pose update was flushed by a tick, not later than the last one -/
  grpPos : ∀ it ∈ k.queue, it.req.isPose = true → 0 < it.grp ∧ it.grp ≤ t
  /-- one tick flushes at most one update per entity: per entity the ticks of queued updates are distinct -/
  grpDistinct : ∀ e, ((k.queue.filter fun it => it.req.poseOf e).map (·.grp)).Nodup

theorem poseOf_iff {e : Nat} {r : Req} : r.poseOf e = true ↔ ∃ ots v, r = .updatePose ots e (some v) := by
  unfold Req.poseOf
  split
  · simp
  · next h => exact ⟨nofun, fun ⟨_, _, hr⟩ => (h _ _ _ hr).elim⟩

theorem poseOf_isPose {e : Nat} {r : Req} (h : r.poseOf e = true) : r.isPose = true := by
  obtain ⟨ots, v, rfl⟩ := poseOf_iff.mp h; rfl

theorem poseOf_eq_beq {a : Nat} {r : Req} (h : r.poseOf a = true) (e : Nat) : r.poseOf e = (a == e) := by
  obtain ⟨_, _, rfl⟩ := poseOf_iff.mp h; rfl

theorem posesFor_append (e : Nat) (a b : List Req) : posesFor e (a ++ b) = posesFor e a ++ posesFor e b :=
  List.filter_append ..

theorem posesFor_singleton (e : Nat) (r : Req) : posesFor e [r] = if r.poseOf e then [r] else [] :=
  List.filter_cons

theorem not_poseOf_of_not_isPose {e : Nat} {r : Req} (h : r.isPose = false) : r.poseOf e = false :=
  Bool.eq_false_iff.mpr fun hp => Bool.false_ne_true (h.symm.trans (poseOf_isPose hp))

theorem posesFor_eq_nil {e : Nat} {l : List Req} (h : ∀ r ∈ l, r.isPose = false) : posesFor e l = [] :=
  List.filter_eq_nil_iff.mpr fun r hr => by simp [not_poseOf_of_not_isPose (h r hr)]

def pendFor (l : List (Nat × Req)) (e : Nat) : Option Req := (l.find? (·.1 == e)).map (·.2)

theorem posesFor_pend (e : Nat) {l : List (Nat × Req)} (hk : ∀ q ∈ l, q.2.poseOf q.1 = true) (hnd : (l.map (·.1)).Nodup) :
    posesFor e (l.map (·.2)) = (pendFor l e).toList := by
  have : posesFor e (l.map (·.2)) = (l.filter (·.1 == e)).map (·.2) := by
    rw [posesFor, List.filter_map]
    exact congrArg _ (List.filter_congr fun q hq => poseOf_eq_beq (hk q hq) e)
  rw [this, filter_key_eq_find hnd, pendFor]
  cases l.find? (·.1 == e) <;> rfl

theorem insertKV_eq_upsert {κ : Type} [BEq κ] (l : List (κ × Req)) (k : κ) (v : Req) :
    insertKV l k v = upsert (·.1) l (k, v) := rfl

theorem pendFor_insertKV {l : List (Nat × Req)} (h : (l.map (·.1)).Nodup) (k : Nat) (v : Req) (e : Nat) :
    pendFor (insertKV l k v) e = if k = e then some v else pendFor l e := by
  rw [pendFor, insertKV_eq_upsert, find_upsert h]
  simp only [beq_iff_eq]
  split <;> rfl

theorem headGroup_prefix : ∀ q : List QItem, headGroup q <+: q
  | [] => List.prefix_refl _
  | x :: xs => by
    simp only [headGroup]
    split
    · exact List.cons_prefix_cons.mpr ⟨rfl, List.nil_prefix⟩
    · exact List.cons_prefix_cons.mpr ⟨rfl, List.takeWhile_prefix _⟩

theorem headGroup_grp {q : List QItem} {y z : QItem} (hy : y ∈ headGroup q) (hz : z ∈ headGroup q) : y.grp = z.grp := by
  cases q with
  | nil => cases hy
  | cons x xs =>
    suffices ∀ y ∈ headGroup (x :: xs), y.grp = x.grp from (this y hy).trans (this z hz).symm
    intro y hy
    simp only [headGroup] at hy
    split at hy
    · rw [List.mem_singleton.mp hy]
    · rcases List.mem_cons.mp hy with rfl | hy
      · rfl
      · have := List.all_eq_true.mp List.all_takeWhile y hy
        simp only [Bool.and_eq_true, beq_iff_eq] at this
        exact this.1

theorem mem_headGroup {q : List QItem} {it : QItem} (h : it ∈ headGroup q) :
    ∃ l₁ l₂, q = l₁ ++ it :: l₂ ∧ q.erase it = l₁ ++ l₂ ∧ ∀ y ∈ l₁, y.grp = it.grp := by
  obtain ⟨l₁, l₂, hn, hg, -⟩ := List.exists_erase_eq h
  obtain ⟨rest, hq⟩ := headGroup_prefix q
  rw [hg, List.append_assoc, List.cons_append] at hq
  refine ⟨l₁, l₂ ++ rest, hq.symm, ?_, fun y hy => headGroup_grp (hg ▸ List.mem_append_left _ hy) h⟩
  rw [← hq, List.erase_append_right _ hn, List.erase_cons_head]

theorem pop_some {k k' : Conn} {pick : Nat} {r : Req} (h : k.pop pick = some (r, k')) :
    ∃ it ∈ headGroup k.queue, r = it.req ∧ k' = { k with queue := k.queue.erase it } := by
  unfold Conn.pop at h
  simp only [] at h
  split at h
  · cases h
  · next it hit =>
    cases h
    refine ⟨it, ?_, rfl, rfl⟩
    simp only [Option.orElse_eq_orElse, Option.orElse_eq_or, Option.or_eq_some_iff] at hit
    rcases hit with h1 | ⟨_, h1⟩
    · exact List.mem_of_getElem? h1
    · exact List.mem_of_mem_head? h1

/-- **the main loop takes the oldest queued pose update of an entity**: whichever item of the head group is
    picked, if it is a pose update of `e` it is the first one of `e` in the queue -/
theorem pop_takes_first {k k' : Conn} {t pick : Nat} {r : Req} (hI : QInv k t) (h : k.pop pick = some (r, k')) (e : Nat) :
    posesFor e (k.queue.map (·.req)) = posesFor e [r] ++ posesFor e (k'.queue.map (·.req)) ∧ k'.pendPose = k.pendPose := by
  obtain ⟨it, hit, rfl, rfl⟩ := pop_some h
  obtain ⟨l₁, l₂, hq, he, hgrp⟩ := mem_headGroup hit
  refine ⟨?_, rfl⟩
  show posesFor e (k.queue.map _) = posesFor e [it.req] ++ posesFor e ((k.queue.erase it).map _)
  rw [he, hq]
  cases hr : it.req.poseOf e with
  | false => simp [posesFor, hr]
  | true =>
    -- nothing of e precedes it: it would carry the same tick
    have hnd := hI.grpDistinct e
    simp only [hq, List.filter_append, List.filter_cons, hr, if_true, List.map_append, List.map_cons] at hnd
    have : posesFor e (l₁.map (·.req)) = [] := List.filter_eq_nil_iff.mpr fun r hr' hp => by
      obtain ⟨y, hy, rfl⟩ := List.mem_map.mp hr'
      exact (List.nodup_append.mp hnd).2.2 _ (List.mem_map.mpr ⟨y, List.mem_filter.mpr ⟨hy, hp⟩, rfl⟩) _
        (List.mem_cons_self ..) (hgrp y hy)
    rw [posesFor] at this
    simp [posesFor, this, hr]

theorem dispatch_shape (k : Conn) (r : Req) :
    (∃ ots eid p, r = .updatePose ots eid (some p) ∧ (k.dispatch r).1 = { k with pendPose := insertKV k.pendPose eid r }) ∨
    r.isPose = false ∧ ((∃ key, (k.dispatch r).1 = { k with pendComp := insertKV k.pendComp key r }) ∨
      (k.dispatch r).1 = k ∨ (k.dispatch r).1 = { k with queue := k.queue ++ [⟨r, 0⟩] }) := by
  unfold Conn.dispatch
  split
  · exact .inr ⟨rfl, .inr (.inl rfl)⟩
  next ots eid p hp =>
    cases p with
    | none => exact (hp rfl).elim
    | some v => exact .inl ⟨ots, eid, v, rfl, rfl⟩
  next tid eid _ => exact .inr ⟨rfl, .inl ⟨(tid, eid), rfl⟩⟩
  · refine .inr ⟨rfl, .inr ?_⟩
    split
    · exact .inl rfl
    · exact .inr rfl
  next hp _ _ =>
    -- any other request is queued, and it is not a pose update
    refine .inr ⟨?_, .inr (.inr rfl)⟩
    unfold Req.isPose
    split
    · exact absurd rfl (hp _ _ _)
    · rfl

theorem QInv_init (c : Nat) : QInv { id := c } 0 :=
  ⟨List.forall_mem_nil _, List.nodup_nil, List.forall_mem_nil _, List.forall_mem_nil _, fun _ => List.nodup_nil⟩

theorem QInv_mono {k : Conn} {t t' : Nat} (hI : QInv k t) (h : t ≤ t') : QInv k t' :=
  { hI with grpPos := fun it hit hp => ⟨(hI.grpPos it hit hp).1, Nat.le_trans (hI.grpPos it hit hp).2 h⟩ }

theorem dispatch_QInv {k : Conn} {t : Nat} (hI : QInv k t) (r : Req) : QInv (k.dispatch r).1 t := by
  rcases dispatch_shape k r with ⟨ots, eid, p, rfl, h⟩ | ⟨hr, ⟨key, h⟩ | h | h⟩ <;> rw [h]
  · rw [insertKV_eq_upsert]
    exact { hI with
      pendKeys := forall_mem_upsert hI.pendKeys (poseOf_iff.mpr ⟨_, _, rfl⟩)
      pendNodup := nodup_map_upsert hI.pendNodup }
  · rw [insertKV_eq_upsert]
    exact { hI with pendComp := forall_mem_upsert hI.pendComp hr }
  · exact hI
  · refine { hI with
      grpPos := forall_mem_concat hI.grpPos fun hp => absurd (hr.symm.trans hp) Bool.false_ne_true
      grpDistinct := fun e => ?_ }
    rw [List.filter_append, List.filter_cons_of_neg (by simp [not_poseOf_of_not_isPose hr]), List.filter_nil, List.append_nil]
    exact hI.grpDistinct e

theorem dispatch_inflight {k : Conn} {t : Nat} (hI : QInv k t) (r : Req) (e : Nat) :
    (k.dispatch r).1.inflight e = if r.poseOf e then posesFor e (k.queue.map (·.req)) ++ [r] else k.inflight e := by
  have hI' := dispatch_QInv hI r
  rcases dispatch_shape k r with ⟨ots, eid, p, rfl, h⟩ | ⟨hr, ⟨key, h⟩ | h | h⟩ <;> rw [h] at hI' ⊢
  · -- the update takes the place of the pending one of its entity
    simp only [Conn.inflight, posesFor_pend e hI'.pendKeys hI'.pendNodup, pendFor_insertKV hI.pendNodup, Req.poseOf, beq_iff_eq]
    split
    · rfl
    · rw [posesFor_pend e hI.pendKeys hI.pendNodup]
  -- of the three cases left, the one in which the connection stays as it is is closed by the `rfl` that `rw` tries
  all_goals rw [if_neg (by simp [not_poseOf_of_not_isPose hr])]
  · rfl
  · simp only [Conn.inflight, List.map_append, List.map_cons, List.map_nil, posesFor_append, posesFor_singleton,
      not_poseOf_of_not_isPose hr, Bool.false_eq_true, if_false, List.append_nil]

theorem flush_QInv {k : Conn} {t n : Nat} (hI : QInv k t) (h : t < n) : QInv (k.flush n) n := by
  refine ⟨List.forall_mem_nil _, List.nodup_nil, List.forall_mem_nil _, fun it hit hp => ?_, fun e => ?_⟩
  · simp only [Conn.flush, List.mem_append, List.mem_map] at hit
    rcases hit with (hit | ⟨q, _, rfl⟩) | ⟨q, _, rfl⟩
    · exact ⟨(hI.grpPos it hit hp).1, Nat.le_trans (hI.grpPos it hit hp).2 (Nat.le_of_lt h)⟩
    all_goals exact ⟨Nat.zero_lt_of_lt h, Nat.le_refl _⟩
  · have hfl : ∀ {κ : Type} (l : List (κ × Req)),
        ((l.map fun q => (⟨q.2, n⟩ : QItem)).filter fun it => it.req.poseOf e).map (·.grp) =
          (posesFor e (l.map (·.2))).map fun _ => n := fun l => by
      simp [posesFor, List.filter_map, Function.comp_def]
    -- of the updates flushed, at most one is a pose update of e, and its tick is later than those queued
    simp only [Conn.flush, List.filter_append, List.map_append, hfl, posesFor_pend e hI.pendKeys hI.pendNodup,
      posesFor_eq_nil (e := e) (List.forall_mem_map.mpr hI.pendComp), List.map_nil, List.append_nil, List.nodup_append]
    refine ⟨hI.grpDistinct e, by cases pendFor k.pendPose e <;> simp, fun a ha b hb hab => ?_⟩
    obtain ⟨it, hit, rfl⟩ := List.mem_map.mp ha
    have := hI.grpPos it (List.mem_filter.mp hit).1 (poseOf_isPose (List.mem_filter.mp hit).2)
    obtain ⟨_, _, rfl⟩ := List.mem_map.mp hb
    exact Nat.lt_irrefl n (Nat.lt_of_le_of_lt (hab ▸ this.2) h)

theorem flush_inflight {k : Conn} {t : Nat} (hI : QInv k t) (n e : Nat) : (k.flush n).inflight e = k.inflight e := by
  simp [Conn.inflight, Conn.flush, posesFor_append, Function.comp_def,
    posesFor_eq_nil (e := e) (List.forall_mem_map.mpr hI.pendComp), show posesFor e [] = [] from rfl]

theorem pop_QInv {k k' : Conn} {t pick : Nat} {r : Req} (hI : QInv k t) (h : k.pop pick = some (r, k')) : QInv k' t := by
  obtain ⟨it, -, -, rfl⟩ := pop_some h
  exact { hI with
    grpPos := fun x hx hp => hI.grpPos x (List.mem_of_mem_erase hx) hp
    grpDistinct := fun e => (((List.erase_sublist ..).filter _).map _).nodup (hI.grpDistinct e) }

def CState.init (c : Nat) : CState := { k := { id := c } }

structure CState.Good (st : CState) : Prop where
  inv : QInv st.k st.lastTick
  flow : ∀ e, (posesFor e st.handled ++ st.k.inflight e).Sublist (posesFor e st.sent) ∧
    (posesFor e st.handled ++ st.k.inflight e).getLast? = (posesFor e st.sent).getLast?

theorem Good_init (c : Nat) : (CState.init c).Good :=
  ⟨QInv_init c, fun _ => ⟨.slnil, rfl⟩⟩

theorem Good_step {st : CState} (hG : st.Good) (op : COp) : (st.step op).Good := by
  cases op with
  | recv r =>
    refine ⟨dispatch_QInv hG.inv r, fun e => ?_⟩
    have ⟨ho, hl⟩ := hG.flow e
    simp only [CState.step, dispatch_inflight hG.inv, posesFor_append, posesFor_singleton]
    split
    · -- what was consumed and queued before is still a subsequence, and the new update is the last on both sides
      rw [← List.append_assoc]
      exact ⟨.append (.trans ((List.sublist_append_left _ _).append_left _) ho) (.refl _), by simp⟩
    · rw [List.append_nil]; exact ⟨ho, hl⟩
  | tick n =>
    simp only [CState.step]
    split
    · exact ⟨flush_QInv hG.inv ‹_›, fun e => by simpa [flush_inflight hG.inv] using hG.flow e⟩
    · exact hG
  | handle pick =>
    simp only [CState.step]
    split
    · next r k' hp =>
      refine ⟨pop_QInv hG.inv hp, fun e => ?_⟩
      have ⟨h1, h2⟩ := pop_takes_first hG.inv hp e
      simpa [Conn.inflight, posesFor_append, h1, h2] using hG.flow e
    · exact hG

/-- **C11, order.** For every interleaving of receives, frame ticks and consumptions on a connection (whatever
    is received, whichever item of a flushed group the main loop takes): the pose updates of an entity consumed
    so far, followed by those queued and the one pending, form a subsequence of the updates received, in the
    order received - none reordered, none repeated - whose last element is the most recent update received. -/
theorem C11_order (c : Nat) (ops : List COp) (e : Nat) :
    let st := (CState.init c).run ops
    (posesFor e st.handled ++ st.k.inflight e).Sublist (posesFor e st.sent) ∧
    (posesFor e st.handled ++ st.k.inflight e).getLast? = (posesFor e st.sent).getLast? :=
  (List.foldlRecOn (motive := CState.Good) ops CState.step (Good_init c) fun _ h op _ => Good_step h op).flow e

/-- **C11, the latest one arrives.** Once nothing for the entity is queued or pending, the last update consumed
    is the last one received (and what was consumed is a subsequence of what was received). -/
theorem C11_latest_arrives (c : Nat) (ops : List COp) (e : Nat)
    (hdone : ((CState.init c).run ops).k.inflight e = []) :
    let st := (CState.init c).run ops
    (posesFor e st.handled).Sublist (posesFor e st.sent) ∧
    (posesFor e st.handled).getLast? = (posesFor e st.sent).getLast? := by
  simpa only [hdone, List.append_nil] using C11_order c ops e

/-- a pending update is flushed by the next tick and then consumed after at most `queue length` consumptions:
    a tick empties the pending map -/
theorem C11_tick_flushes (k : Conn) (n e : Nat) : pendFor (k.flush n).pendPose e = none := by
  simp [Conn.flush, pendFor]

/-! ### the server runs exactly this scheduler -/

def Server.EachConn (P : Conn → Nat → Prop) (srv : Server) : Prop := ∀ k ∈ srv.conns, P k srv.ticks

/-- An event changes a connection through its scheduler only: a property of a connection and the tick count that a
    later count keeps, that a new connection has, and that `Conn.dispatch`, the flush of the next tick and `Conn.pop`
    keep, holds of every connection after the event if it held of every connection before. -/
theorem step_conns {P : Conn → Nat → Prop} (cfg : Cfg)
    (later : ∀ {k : Conn} {t : Nat}, P k t → P k (t + 1))
    (new : ∀ c t : Nat, P { id := c } t)
    (dispatch : ∀ {k : Conn} {t : Nat}, P k t → ∀ r, P (k.dispatch r).1 t)
    (flush : ∀ {k : Conn} {t : Nat}, P k t → P (k.flush (t + 1)) (t + 1))
    (pop : ∀ {k k' : Conn} {t pick : Nat} {r : Req}, P k t → k.pop pick = some (r, k') → P k' t)
    {srv : Server} (h : srv.EachConn P) (e : Event) : (step cfg srv e).1.EachConn P := by
  have disc {a : Server} (c : Nat) (ha : a.EachConn P) : (a.disconnect cfg c).1.EachConn P := by
    unfold Server.EachConn
    rw [(Server.disconnect_transport cfg a c).1, (Server.disconnect_transport cfg a c).2.1]
    exact fun k hk => ha k (List.mem_filter.mp hk).1
  have setc {a : Server} {k' : Conn} (ha : a.EachConn P) (hk' : P k' a.ticks) : (a.setConn k').EachConn P :=
    forall_mem_replace_key (f := Conn.id) (fun k hk _ => ha k hk) hk'
  cases e with
  | connect c =>
    dsimp only [step]
    split
    · exact h
    · exact forall_mem_concat h (new c _)
  | recv c r =>
    dsimp only [step]
    split
    · exact h
    next k0 hf =>
      have hk0 := h k0 (List.mem_of_find?_eq_some hf)
      -- the join request's flush is a tick of this connection alone
      have hb : (srv.beforeDispatch k0 r).1.EachConn P ∧ P (srv.beforeDispatch k0 r).2 (srv.beforeDispatch k0 r).1.ticks := by
        unfold Server.beforeDispatch
        split
        · exact ⟨fun k hk => later (h k hk), flush hk0⟩
        · exact ⟨h, hk0⟩
      split
      · next k' hd =>
        have := dispatch hb.2 r
        rw [hd] at this
        exact setc hb.1 this
      · exact disc c hb.1
  | handle c pick hint =>
    dsimp only [step]
    split
    · exact h
    next k0 hf =>
      split
      · exact h
      next r k' hp =>
        have h1 : ((srv.setConn k').handleReq cfg c r hint).1.EachConn P := by
          unfold Server.EachConn
          rw [(Server.handleReq_conns cfg _ c r hint).1, (Server.handleReq_conns cfg _ c r hint).2]
          exact setc h (pop (h k0 (List.mem_of_find?_eq_some hf)) hp)
        split
        · exact h1
        · exact disc c h1
        · exact fun k hk => h1 k (List.mem_filter.mp hk).1
  | tick sid =>
    dsimp only [step]
    split
    · exact h
    · refine List.forall_mem_map.mpr fun k hk => ?_
      split
      · exact flush (h k hk)
      · exact later (h k hk)
  | disconnect c => exact disc c h
  | drain => exact h

theorem step_sched (cfg : Cfg) {srv : Server} (ev : Event) (h : srv.EachConn QInv) : (step cfg srv ev).1.EachConn QInv :=
  step_conns cfg (QInv_mono · (Nat.le_succ _)) (fun c _ => QInv_mono (QInv_init c) (Nat.zero_le _)) dispatch_QInv
    (flush_QInv · (Nat.lt_succ_self _)) pop_QInv h ev

/-- **C11, the server's schedulers.** In every state the server can reach, every connection's scheduler
    satisfies the invariant of `C11_order`; so whatever the main loop takes next, if it is a pose update of an
    entity it is the oldest one queued for that entity (`pop_takes_first`), a received update replaces only the
    pending one of its own entity (`pendFor_insertKV`) and a tick moves the pending updates behind everything
    queued (`Conn.flush`). -/
theorem C11_sched_invariant (cfg : Cfg) : ∀ (es : List Event) (srv : Server), (∀ k ∈ srv.conns, QInv k srv.ticks) →
    ∀ k ∈ (run cfg srv es).1.conns, QInv k (run cfg srv es).1.ticks :=
  fun es _ h => run_invariant (P := Server.EachConn QInv) cfg (step_sched cfg) es h

/-- the consumption step of the server on a reachable state takes the oldest queued update of the entity -/
theorem C11_handle_takes_oldest (cfg : Cfg) (es : List Event) (c pick e : Nat) (k k' : Conn) (r : Req)
    (hk : (run cfg {} es).1.findConn c = some k) (hp : k.pop pick = some (r, k')) (hr : r.poseOf e = true) :
    posesFor e (k.queue.map (·.req)) = r :: posesFor e (k'.queue.map (·.req)) := by
  have hI := C11_sched_invariant cfg es {} (fun _ h => nomatch h) k (List.mem_of_find?_eq_some hk)
  simpa [posesFor_singleton, hr] using (pop_takes_first hI hp e).1

/-- owner, entity present, pose present: the pose is stored, and it is the stored pose that is relayed -/
theorem C11_applied (cfg : Cfg) (s : Session) (p : Part) (ots eid v : Nat) (e : Entity)
    (he : s.findEnt eid = some e) (ho : e.owner = p.pid) :
    let r := s.updatePose cfg p ots eid (some v)
    r.1.ents = s.ents.map (fun x => if x.id == eid then { x with pose := v } else x) ∧
    r.2.1 = gate cfg fPose (s.bcast p.pid (.poseBcast ots eid v)) := by
  have hid : e.id = eid := (findEnt_some_mem he).2
  simp only [Session.updatePose, he, ho, bne_self_eq_false, Bool.false_eq_true, if_false, hid]
  exact ⟨trivial, congrArg _ (Session.bcast_congr (s := s) rfl _ _)⟩

/-- unknown or foreign entity, or no pose: nothing changes, nothing is sent -/
theorem C11_dropped (cfg : Cfg) (s : Session) (p : Part) (ots eid : Nat) (pose : Option Nat)
    (h : s.findEnt eid = none ∨ (∃ e, s.findEnt eid = some e ∧ e.owner ≠ p.pid) ∨ pose = none) :
    s.updatePose cfg p ots eid pose = (s, [], .ok) :=
  Session.updatePose_dropped cfg s p ots eid pose h

/-- **No pose after deletion.** An entity id that has been issued and is gone (deleted, or removed with its
    owner) stays gone through every later request: ids are never reissued, so a pose update that was still in
    flight when the entity was deleted, or that arrives later, is dropped by `C11_dropped`. -/
theorem C11_gone_stays_gone (cfg : Cfg) (s : Session) (p : Part) (r : Req) (hint eid : Nat)
    (hle : eid ≤ s.eidCur) (hgone : s.findEnt eid = none) :
    (s.handle cfg p r hint).1.findEnt eid = none ∧ eid ≤ (s.handle cfg p r hint).1.eidCur := by
  refine ⟨?_, Nat.le_trans hle (Props.C10.C10_counters_monotone cfg s p r hint).2.1⟩
  rw [← Option.not_isSome_iff_eq_none, findEnt_isSome_iff] at hgone ⊢
  rintro ⟨e, hmem, hid⟩
  -- an entity of afterwards was there before under the same id, or carries the next id
  rcases Props.C05.C05_owner_immutable cfg s p r hint e hmem with ⟨e0, h0, hid0, _⟩ | ⟨hnew, _, _⟩
  · exact hgone ⟨e0, h0, hid0.trans hid⟩
  · exact Nat.not_succ_le_self _ (hnew ▸ hid ▸ hle)

end Hagall
