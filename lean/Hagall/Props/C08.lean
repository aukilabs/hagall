/-
  C08 - the part of "no client behaviour can wedge a handler or leave a ghost" that is logic: the life cycle
  of one connection handler (`Model/Life.lean`).  For every schedule of client behaviour (frames arriving or not,
  reads and writes failing or not, broadcasts from others) and of the handler's goroutines:

  * `C08_once`: `handleDisconnect` runs at most once, and has run exactly once when `websocket.Handle` returns;
  * `C08_never_stuck`: the main loop never blocks on reporting a disconnection cause, and a pending cause can
    always be taken (`C08_cause_taken`); `C08_old_code_wedges` is the kernel-checked witness that with the blocking
    report of the original code (finding F6) nine failing requests wedge the handler for good;
  * `C08_cause_handled`: taking a cause runs `handleDisconnect` to its end, without waiting for the session's frame
    worker; `C08_old_frame_lock_wedges` is the witness that before the repair of F15 a flooding client that goes away
    leaves its handler and the session's frame worker waiting for each other for good (`frame_lock_wedges`: whatever the
    capacities);
  * `C08_send_progress`: whenever the main loop waits for room in the send queue, the sender goroutine can make room
    (it keeps dropping after a failed write instead of exiting);
  * `C08_shutdown_progress` + `C08_shutdown_decreases`: once a cause has been taken, some goroutine of the handler
    can always move without the client's help until `Handle` has returned, and every such move strictly decreases
    a measure - so every run of the shutdown ends, and it ends with `Handle` returned and both goroutines gone.

  The model is tied to the code by the regenerated facts (the capacities of `disconnectChan` and `sendChan`,
  `disconnect` and `handleFrame` are non-blocking sends, defers and skeleton of `Handle` / `startSending` /
  `startReceiving`: `Gen/AbsLife`, `Gen/ObC08`) and by the wire-level scenarios of go/cmd/wire, which observe the same
  end state on the real server (every handler returned, nothing left).  The capacity of the scheduler queue
  (`Caps.mq = 256`) is `schedulerQueueSize` of hagall-common, which the facts do not reach: nothing ties it.
  What is not modelled: the OS (that a blocked write really fails when its deadline passes), net/http, memory.
-/
import Hagall.Model.Life
namespace Hagall.Life

def good : Caps := {}

variable {c : Caps} {s s' : H} {e : Ev}

theorem report_eq (c : Caps) (s : H) : report c s = { s with dq := (report c s).dq } := by
  unfold report; split <;> rfl

theorem report_dq_le (h : s.dq ≤ c.dq) : (report c s).dq ≤ c.dq := by
  unfold report; split
  · exact ‹s.dq < c.dq›
  · exact h

/-- `step c s e = some s'` read as a relation: one rule for each way an event can happen, the guards that `step`
    tests as hypotheses, and `s'` written as an update of `s` alone, so that a field an event does not name is the
    old one by definition.  Every fact below of the form "each enabled step ..." is a `cases` on this. -/
inductive Step (c : Caps) (s : H) : Ev → H → Prop
  | arrive : s.recv = .reading ∧ ¬ s.closed → Step c s .arrive { s with recv := .holding }
  | readFails : s.recv = .reading → Step c s .readFails { s with dq := (report c s).dq, recv := .dead }
  | dispatch : s.recv = .holding ∧ s.mq < c.mq → Step c s .dispatch { s with recv := .reading, mq := s.mq + 1 }
  | recvExit : s.recv = .reading ∧ s.cancelled → Step c s .recvExit { s with recv := .dead }
  | writeDone : s.sender ∧ ¬ s.sendFailed ∧ 0 < s.sendq → Step c s .writeDone { s with sendq := s.sendq - 1 }
  | writeFails : s.sender ∧ ¬ s.sendFailed ∧ 0 < s.sendq →
      Step c s .writeFails { s with dq := (report c s).dq, sendq := s.sendq - 1, sendFailed := true }
  | sendDrop : s.sender ∧ s.sendFailed ∧ 0 < s.sendq → Step c s .sendDrop { s with sendq := s.sendq - 1 }
  | sendExit : s.sender ∧ s.cancelled → Step c s .sendExit { s with sender := false, sendq := 0 }
  | relayIn : ¬ s.cancelled ∧ s.sendq < c.sq → Step c s .relayIn { s with sendq := s.sendq + 1 }
  | frameOld : ¬ s.cancelled → c.frameUnderLock → ¬ s.frameHeld → s.mq < c.mq → Step c s .frame { s with mq := s.mq + 1 }
  | frameBlocks : ¬ s.cancelled → c.frameUnderLock → ¬ s.frameHeld → ¬ s.mq < c.mq →
      Step c s .frame { s with frameHeld := true }
  | frame : ¬ s.cancelled → ¬ c.frameUnderLock → s.pump = .waiting → Step c s .frame { s with pump := .pushing }
  | pumpPushOld : c.frameUnderLock → s.frameHeld ∧ s.mq < c.mq →
      Step c s .pumpPush { s with mq := s.mq + 1, frameHeld := false }
  | pumpPush : ¬ c.frameUnderLock → s.pump = .pushing ∧ s.mq < c.mq →
      Step c s .pumpPush { s with mq := s.mq + 1, pump := .waiting }
  | pumpExit : ¬ c.frameUnderLock ∧ s.pump = .waiting ∧ s.cancelled → Step c s .pumpExit { s with pump := .dead }
  | handleOk : s.main = .loop ∧ ¬ s.cancelled ∧ 0 < s.mq ∧ s.sendq < c.sq →
      Step c s .handleOk { s with mq := s.mq - 1, sendq := s.sendq + 1 }
  | handleErrBlocks : s.main = .loop ∧ ¬ s.cancelled ∧ 0 < s.mq → c.blockingReport ∧ s.dq = c.dq →
      Step c s .handleErr { s with mq := s.mq - 1, main := .stuck }
  | handleErr : s.main = .loop ∧ ¬ s.cancelled ∧ 0 < s.mq → ¬ (c.blockingReport ∧ s.dq = c.dq) →
      Step c s .handleErr { s with dq := (report c s).dq, mq := s.mq - 1 }
  | idleBlocks : s.main = .loop ∧ ¬ s.cancelled → c.blockingReport ∧ s.dq = c.dq → Step c s .idle { s with main := .stuck }
  | idle : s.main = .loop ∧ ¬ s.cancelled → ¬ (c.blockingReport ∧ s.dq = c.dq) → Step c s .idle { s with dq := (report c s).dq }
  | takeCauseBlocks : s.main = .loop ∧ 0 < s.dq → s.frameHeld → Step c s .takeCause { s with dq := s.dq - 1, main := .stuck }
  | takeCause : s.main = .loop ∧ 0 < s.dq → ¬ s.frameHeld →
      Step c s .takeCause { s with dq := s.dq - 1, handled := s.handled + 1, closed := true, cancelled := true, main := .winding }
  | drain : s.main = .winding ∧ 0 < s.mq → Step c s .drain { s with mq := s.mq - 1 }
  | finish : s.main = .winding ∧ ¬ s.sender ∧ s.recv = .dead ∧ (c.frameUnderLock ∨ s.pump = .dead) →
      Step c s .finish { s with main := .returned }

theorem ite_elim {α} {p : Prop} [Decidable p] {x y b : α} {G : Prop} (h1 : p → x = b → G) (h2 : ¬ p → y = b → G)
    (h : (if p then x else y) = b) : G :=
  iteInduction (motive := (· = b → G)) h1 h2 h

theorem Step.of_step : step c s e = some s' → Step c s e s' := by
  -- every `if` on the way to a leaf of the branch is opened by `ite_elim` (`split` is slow on terms of this size); a
  -- `none` leaf is closed by `rintro ⟨⟩`, and at a `some` leaf the guards collected on the way are those of one rule
  cases e <;> (repeat' (apply ite_elim <;> intro _)) <;> rintro ⟨⟩ <;> (try rw [report_eq c s]) <;>
    constructor <;> assumption

theorem run_keeps {P : H → Prop} (hP : ∀ {s s' e}, P s → Step c s e s' → P s') :
    ∀ (es : List Ev) {s : H}, P s → P (run c s es)
  | [], _, h => h
  | e :: es, s, h => by
    show P (run c ((step c s e).getD s) es)
    cases hs : step c s e with
    | none => exact run_keeps hP es h
    | some s' => exact run_keeps hP es (hP h (.of_step hs))

theorem run_cons_some (h : step c s e = some s') (es : List Ev) : run c s (e :: es) = run c s' es :=
  congrArg (fun o : Option H => run c (o.getD s) es) h

structure Inv (c : Caps) (s : H) : Prop where
  dq_le : s.dq ≤ c.dq
  sq_le : s.sendq ≤ c.sq
  mq_le : s.mq ≤ c.mq
  once : s.handled ≤ 1
  cancel_iff : s.cancelled = true ↔ s.handled = 1
  closed_eq : s.closed = s.cancelled
  main_live : (s.main = .loop ∨ s.main = .stuck) ↔ s.cancelled = false
  sender_gone : s.sender = false → s.cancelled = true
  returned_clean : s.main = .returned → s.sender = false ∧ s.recv = .dead ∧ (c.frameUnderLock = true ∨ s.pump = .dead)
  held_old : s.frameHeld = true → c.frameUnderLock = true ∧ s.cancelled = false
  pump_gone : s.pump = .dead → s.cancelled = true

theorem Inv_init (c : Caps) : Inv c {} := by
  constructor <;> simp

theorem Inv.cancelled_iff (h : Inv c s) : s.cancelled = true ↔ s.main = .winding ∨ s.main = .returned := by
  have := h.main_live
  cases hm : s.main <;> simp_all

/-- Each rule updates a few fields, and a clause of `Inv` that speaks of none of them holds of the new state because it
    is, by definition, the clause of the old one: `{ h with .. }` names only the others. -/
theorem Inv_step (h : Inv c s) (hs : Step c s e s') : Inv c s' := by
  have rc := h.returned_clean
  have dq' := report_dq_le h.dq_le
  have dq1 : s.dq - 1 ≤ c.dq := Nat.le_trans (Nat.sub_le ..) h.dq_le
  have mq1 : s.mq - 1 ≤ c.mq := Nat.le_trans (Nat.sub_le ..) h.mq_le
  have sq1 : s.sendq - 1 ≤ c.sq := Nat.le_trans (Nat.sub_le ..) h.sq_le
  have live (hc : ¬ s.cancelled = true) (hm : s.main = .returned) : False := hc (h.cancelled_iff.mpr (.inr hm))
  have stuck (hc : s.cancelled = false) : (Main.stuck = .loop ∨ Main.stuck = .stuck) ↔ s.cancelled = false :=
    ⟨fun _ => hc, fun _ => .inr rfl⟩
  cases hs with
  | arrive g => exact { h with returned_clean := fun hm => (live (h.closed_eq ▸ g.2) hm).elim }
  | readFails => exact { h with dq_le := dq', returned_clean := fun hm => ⟨(rc hm).1, rfl, (rc hm).2.2⟩ }
  | recvExit => exact { h with returned_clean := fun hm => ⟨(rc hm).1, rfl, (rc hm).2.2⟩ }
  | dispatch g => exact { h with mq_le := g.2, returned_clean := fun hm => nomatch g.1.symm.trans (rc hm).2.1 }
  | writeDone | sendDrop => exact { h with sq_le := sq1 }
  | writeFails => exact { h with dq_le := dq', sq_le := sq1 }
  | sendExit g => exact { h with sq_le := Nat.zero_le _, sender_gone := fun _ => g.2, returned_clean := fun hm => ⟨rfl, (rc hm).2⟩ }
  | relayIn g => exact { h with sq_le := g.2 }
  | frameOld _ _ _ hq => exact { h with mq_le := hq }
  | frameBlocks hc hu => exact { h with held_old := fun _ => ⟨hu, Bool.eq_false_iff.mpr hc⟩ }
  | frame hc => exact { h with returned_clean := fun hm => (live hc hm).elim, pump_gone := nofun }
  | pumpPushOld _ g => exact { h with mq_le := g.2, held_old := nofun }
  | pumpPush hu g =>
    exact { h with mq_le := g.2, pump_gone := nofun,
                   returned_clean := fun hm => (rc hm).2.2.elim (absurd · hu) (nomatch g.1.symm.trans ·) }
  | pumpExit g => exact { h with pump_gone := fun _ => g.2.2, returned_clean := fun hm => ⟨(rc hm).1, (rc hm).2.1, .inr rfl⟩ }
  | handleOk g => exact { h with mq_le := mq1, sq_le := g.2.2.2 }
  | handleErrBlocks g => exact { h with mq_le := mq1, main_live := stuck (Bool.eq_false_iff.mpr g.2.1), returned_clean := nofun }
  | handleErr => exact { h with dq_le := dq', mq_le := mq1 }
  | idleBlocks g => exact { h with main_live := stuck (Bool.eq_false_iff.mpr g.2), returned_clean := nofun }
  | idle => exact { h with dq_le := dq' }
  | takeCauseBlocks g => exact { h with dq_le := dq1, main_live := stuck (h.main_live.mp (.inl g.1)), returned_clean := nofun }
  | takeCause g hf =>
    have h0 : s.handled = 0 := (Nat.le_one_iff_eq_zero_or_eq_one.mp h.once).resolve_right fun h1 =>
      Bool.false_ne_true ((h.main_live.mp (.inl g.1)).symm.trans (h.cancel_iff.mpr h1))
    have h1 : s.handled + 1 = 1 := congrArg (· + 1) h0
    exact { h with dq_le := dq1, once := Nat.le_of_eq h1, cancel_iff := ⟨fun _ => h1, fun _ => rfl⟩, closed_eq := rfl,
                   main_live := ⟨nofun, nofun⟩, sender_gone := fun _ => rfl, returned_clean := nofun, held_old := (absurd · hf),
                   pump_gone := fun _ => rfl }
  | drain => exact { h with mq_le := mq1 }
  | finish g =>
    exact { h with main_live := by simp [h.cancelled_iff.mpr (.inl g.1)], returned_clean := fun _ => ⟨Bool.eq_false_iff.mpr g.2.1, g.2.2⟩ }

/-- The main loop blocks only in the two old variants: on a full cause channel with the blocking report, or on the
    session's frame lock while a frame is held, which `Inv.held_old` confines to `frameUnderLock`. -/
theorem Step.stuck_old (hs : Step c s e s') (h : Inv c s)
    (hm : s.main = .stuck → c.blockingReport = true ∨ c.frameUnderLock = true) :
    s'.main = .stuck → c.blockingReport = true ∨ c.frameUnderLock = true := by
  cases hs with
  | handleErrBlocks _ hb | idleBlocks _ hb => exact fun _ => .inl hb.1
  | takeCauseBlocks _ hf => exact fun _ => .inr (h.held_old hf).1
  | takeCause | finish => exact nofun
  | _ => exact hm

theorem reachable (c : Caps) (es : List Ev) :
    Inv c (run c {} es) ∧ ((run c {} es).main = .stuck → c.blockingReport = true ∨ c.frameUnderLock = true) :=
  run_keeps (P := fun s => Inv c s ∧ (s.main = .stuck → c.blockingReport = true ∨ c.frameUnderLock = true))
    (fun h hs => ⟨Inv_step h.1 hs, hs.stuck_old h.1 h.2⟩) es ⟨Inv_init c, nofun⟩

/-- **C08, exactly once.** Whatever the client and the scheduler do, `handleDisconnect` runs at most once; it has
    run exactly once, and both goroutines are gone, when `websocket.Handle` has returned. -/
theorem C08_once (c : Caps) (es : List Ev) :
    (run c {} es).handled ≤ 1 ∧
    ((run c {} es).main = .returned → (run c {} es).handled = 1 ∧ (run c {} es).sender = false ∧ (run c {} es).recv = .dead ∧
      (c.frameUnderLock = true ∨ (run c {} es).pump = .dead)) := by
  have h := (reachable c es).1
  exact ⟨h.once, fun hr => ⟨h.cancel_iff.mp (h.cancelled_iff.mpr (.inr hr)), h.returned_clean hr⟩⟩

/-- **C08, reporting never blocks.** With the non-blocking report no schedule ever leaves the main loop blocked
    on its own cause channel. -/
theorem C08_never_stuck (es : List Ev) : (run good {} es).main ≠ .stuck ∧ (run good {} es).frameHeld = false :=
  have h := reachable good es
  ⟨fun hm => by cases h.2 hm <;> contradiction, Bool.eq_false_iff.mpr fun hh => by cases (h.1.held_old hh).1⟩

/-- a pending cause can always be taken by the main loop -/
theorem C08_cause_taken (c : Caps) (s : H) (hm : s.main = .loop) (hd : 0 < s.dq) : (step c s .takeCause).isSome = true := by
  show (if s.main = .loop ∧ 0 < s.dq then _ else none).isSome = true
  rw [if_pos ⟨hm, hd⟩]; split <;> rfl

/-- taking a pending cause runs `handleDisconnect` to its end: leaving the session never waits for the session's frame
    worker, because that worker never waits for this connection (finding F15 was the opposite) -/
theorem C08_cause_handled (es : List Ev) (hm : (run good {} es).main = .loop) (hd : 0 < (run good {} es).dq) :
    ∃ s', step good (run good {} es) .takeCause = some s' ∧ s'.handled = (run good {} es).handled + 1 ∧ s'.main = .winding := by
  have hf := (C08_never_stuck es).2
  refine ⟨_, (if_pos ⟨hm, hd⟩).trans (if_neg (Bool.eq_false_iff.mp hf)), rfl, rfl⟩

/-- Blocked is for ever: every event of the main loop needs `main` to be `loop` or `winding`, and no other goroutine
    writes `main` or runs `handleDisconnect`.  Nor is anything taken from the scheduler queue meanwhile, so a full queue
    stays full and the frame worker blocked on it stays blocked. -/
theorem Step.stuck (hs : Step c s e s') (hm : s.main = .stuck) :
    s'.main = .stuck ∧ s'.handled = s.handled ∧ (s.frameHeld = true ∧ s.mq = c.mq → s'.frameHeld = true ∧ s'.mq = c.mq) := by
  cases hs with
  | handleOk h | handleErrBlocks h | handleErr h | idleBlocks h | idle h | takeCauseBlocks h | takeCause h | drain h | finish h =>
    cases hm.symm.trans h.1
  | dispatch h | pumpPushOld _ h | pumpPush _ h => exact ⟨hm, rfl, fun hq => (Nat.ne_of_lt h.2 hq.2).elim⟩
  | frameOld _ _ _ h => exact ⟨hm, rfl, fun hq => (Nat.ne_of_lt h hq.2).elim⟩
  | frameBlocks => exact ⟨hm, rfl, fun hq => ⟨rfl, hq.2⟩⟩
  | _ => exact ⟨hm, rfl, id⟩

theorem stuck_forever (hm : s.main = .stuck) (es : List Ev) :
    (run c s es).main = .stuck ∧ (run c s es).handled = s.handled ∧
      (s.frameHeld = true ∧ s.mq = c.mq → (run c s es).frameHeld = true ∧ (run c s es).mq = c.mq) :=
  run_keeps (P := fun t => t.main = .stuck ∧ t.handled = s.handled ∧ (s.frameHeld = true ∧ s.mq = c.mq → t.frameHeld = true ∧ t.mq = c.mq))
    (fun h hs => ⟨(hs.stuck h.1).1, (hs.stuck h.1).2.1.trans h.2.1, fun hq => (hs.stuck h.1).2.2 (h.2.2 hq)⟩) es ⟨hm, rfl, id⟩

/-- **The original code wedges (finding F6).** With a blocking report, nine failing requests taken in a row leave the
    main loop blocked on its own full channel, and from there nothing any goroutine or the client does moves it:
    `handleDisconnect` never runs, `Handle` never returns. -/
theorem C08_old_code_wedges :
    let old : Caps := { blockingReport := true }
    let burst := (List.replicate 9 [Ev.arrive, Ev.dispatch]).flatten ++ List.replicate 9 Ev.handleErr
    (run old {} burst).main = .stuck ∧ (run old {} burst).handled = 0 ∧
    ∀ (es : List Ev), (run old (run old {} burst) es).main = .stuck ∧ (run old (run old {} burst) es).handled = 0 := by
  intro old burst
  have h0 : (run old {} burst).main = .stuck ∧ (run old {} burst).handled = 0 := by decide +kernel
  exact ⟨h0.1, h0.2, fun es => ⟨(stuck_forever h0.1 es).1, (stuck_forever h0.1 es).2.1.trans h0.2⟩⟩

/-- A client that is read but not served: each message received and handed over is one more in the scheduler queue,
    as long as there is room. -/
theorem run_fill {n : Nat} (hr : s.recv = .reading) (hc : s.closed = false) (h : n + s.mq ≤ c.mq) (es : List Ev) :
    run c s ((List.replicate n [Ev.arrive, .dispatch]).flatten ++ es) = run c { s with mq := n + s.mq } es := by
  induction n generalizing s with
  | zero => rw [Nat.zero_add]; rfl
  | succ n ih =>
    have e : n + (s.mq + 1) = n + 1 + s.mq := Nat.add_right_comm n s.mq 1
    have h1 : step c s .arrive = some { s with recv := .holding } := if_pos ⟨hr, Bool.eq_false_iff.mp hc⟩
    have h2 : step c { s with recv := .holding } .dispatch = some { s with recv := .reading, mq := s.mq + 1 } :=
      if_pos ⟨rfl, Nat.lt_of_lt_of_le (Nat.lt_add_of_pos_left n.succ_pos) h⟩
    refine (run_cons_some h1 _).trans ((run_cons_some h2 _).trans ?_)
    refine (ih (s := { s with recv := .reading, mq := s.mq + 1 }) rfl hc (e ▸ h)).trans ?_
    show run c { s with recv := .reading, mq := n + (s.mq + 1) } es = _
    rw [e, hr]

/-- The wedge of `C08_old_frame_lock_wedges` does not depend on the capacities: while the hand-over is done under the
    session's frame lock, a client that fills its scheduler queue, however long, and goes away at the next frame leaves the
    main loop and the session's frame worker waiting for each other.  (`0 < c.dq`: a cause channel without room drops the
    cause of the failed read, and `handleDisconnect` is never called.) -/
theorem frame_lock_wedges (hu : c.frameUnderLock = true) (hd : 0 < c.dq) (es : List Ev) :
    let flood := (List.replicate c.mq [Ev.arrive, Ev.dispatch]).flatten ++ [Ev.frame, Ev.readFails, Ev.takeCause]
    (run c (run c {} flood) es).main = .stuck ∧ (run c (run c {} flood) es).handled = 0 ∧
      (run c (run c {} flood) es).frameHeld = true := by
  intro flood
  have h0 : run c {} flood = { main := .stuck, frameHeld := true, recv := .dead, mq := c.mq } := by
    -- on these states `step` evaluates but for the tests on `c`: the frame worker finds the queue full and blocks holding
    -- the lock, the failed read reports a cause, and taking it needs the lock
    have h1 : step c { mq := c.mq } .frame = some { mq := c.mq, frameHeld := true } := by
      show (if c.frameUnderLock = true then (if c.mq < c.mq then _ else _) else _) = _
      rw [if_pos hu, if_neg (Nat.lt_irrefl _)]
    have h2 : step c { mq := c.mq, frameHeld := true } .readFails =
        some { mq := c.mq, frameHeld := true, dq := 1, recv := .dead } := by
      show some { report c _ with recv := .dead } = _
      rw [report, if_pos hd]
    have h3 : step c { mq := c.mq, frameHeld := true, dq := 1, recv := .dead } .takeCause =
        some { mq := c.mq, frameHeld := true, recv := .dead, main := .stuck } := rfl
    exact (run_fill rfl rfl (Nat.le_refl _) _).trans
      ((run_cons_some h1 _).trans ((run_cons_some h2 _).trans (run_cons_some h3 _)))
  rw [h0]
  have h := stuck_forever (c := c) (s := { main := .stuck, frameHeld := true, recv := .dead, mq := c.mq }) rfl es
  exact ⟨h.1, h.2.1, (h.2.2 ⟨rfl, rfl⟩).1⟩

/-- **The code before the repair of F15 wedges a whole session.** A client that is not being served fast enough fills its
    scheduler queue (256 messages); at the next frame the session's frame worker, holding the session's frame lock, blocks
    handing that connection its pending update; the client goes away; `handleDisconnect` then needs the frame lock to
    leave the session: the main loop and the session's frame worker wait for each other for ever, whatever happens next -
    `handleDisconnect` never completes, `Handle` never returns, and the frame worker (hence every member's pose relay)
    never moves again. -/
theorem C08_old_frame_lock_wedges :
    let old : Caps := { frameUnderLock := true }
    -- 256 is `Caps.mq`, which stands for `schedulerQueueSize` of hagall-common; no regenerated fact ties the two
    let flood := (List.replicate 256 [Ev.arrive, Ev.dispatch]).flatten ++ [Ev.frame, Ev.readFails, Ev.takeCause]
    ∀ (es : List Ev), (run old (run old {} flood) es).main = .stuck ∧ (run old (run old {} flood) es).handled = 0 ∧
      (run old (run old {} flood) es).frameHeld = true := by
  intro old flood es
  exact frame_lock_wedges (c := old) rfl (by decide) es

/-- **C08, the send queue moves.** Whenever the connection is live, a full send queue can be relieved by the sender
    goroutine: it writes, or fails, or - after a failed write - drops; it never just goes away. -/
theorem C08_send_progress (c : Caps) (s : H) (hI : Inv c s) (hlive : s.cancelled = false) (hq : 0 < s.sendq) :
    (step c s .writeDone).isSome = true ∨ (step c s .sendDrop).isSome = true := by
  cases hs : s.sender with
  | false => cases (hI.sender_gone hs).symm.trans hlive
  | true =>
    cases hf : s.sendFailed with
    | false => exact .inl (Option.isSome_ite.mpr ⟨hs, Bool.eq_false_iff.mp hf, hq⟩)
    | true => exact .inr (Option.isSome_ite.mpr ⟨hs, hf, hq⟩)

/-- **C08, shutdown cannot deadlock.** Once a cause has been taken and until `Handle` has returned, some goroutine of the
    handler can move without any help from the client. -/
theorem C08_shutdown_progress (c : Caps) (hcap : 0 < c.mq) (s : H) (hI : Inv c s) (hc : s.cancelled = true) (hm : s.main ≠ .returned) :
    ∃ e, e.internal = true ∧ (step c s e).isSome = true := by
  have hw := (hI.cancelled_iff.mp hc).resolve_right hm
  have drain (hq : ¬ s.mq < c.mq) : (step c s .drain).isSome = true :=
    Option.isSome_ite.mpr ⟨hw, Nat.lt_of_lt_of_le hcap (Nat.le_of_not_lt hq)⟩
  cases hs : s.sender with
  | true => exact ⟨.sendExit, rfl, Option.isSome_ite.mpr ⟨hs, hc⟩⟩
  | false =>
    cases hr : s.recv with
    | reading => exact ⟨.recvExit, rfl, Option.isSome_ite.mpr ⟨hr, hc⟩⟩
    | holding =>
      by_cases hq : s.mq < c.mq
      · exact ⟨.dispatch, rfl, Option.isSome_ite.mpr ⟨hr, hq⟩⟩
      · exact ⟨.drain, rfl, drain hq⟩
    | dead =>
      by_cases hu : c.frameUnderLock = true
      · exact ⟨.finish, rfl, Option.isSome_ite.mpr ⟨hw, Bool.eq_false_iff.mp hs, hr, .inl hu⟩⟩
      cases hp : s.pump with
      | dead => exact ⟨.finish, rfl, Option.isSome_ite.mpr ⟨hw, Bool.eq_false_iff.mp hs, hr, .inr hp⟩⟩
      | waiting => exact ⟨.pumpExit, rfl, Option.isSome_ite.mpr ⟨hu, hp, hc⟩⟩
      | pushing =>
        by_cases hq : s.mq < c.mq
        · exact ⟨.pumpPush, rfl, (congrArg Option.isSome (if_neg hu)).trans (Option.isSome_ite.mpr ⟨hp, hq⟩)⟩
        · exact ⟨.drain, rfl, drain hq⟩

/-- what is left to do in a shutdown -/
def rank (s : H) : Nat :=
  (if s.main = .returned then 0 else 1) + (if s.sender then 1 else 0) +
  (match s.recv with | .holding => 3 | .reading => 1 | .dead => 0) +
  (match s.pump with | .pushing => 3 | .waiting => 1 | .dead => 0) + s.mq + s.sendq

/-- **C08, shutdown ends.** After a cause has been taken every enabled event - of the handler or of the client -
    strictly decreases `rank`: no run of the shutdown is infinite.  With `C08_shutdown_progress` every maximal run
    therefore ends in the state where `Handle` has returned. -/
theorem C08_shutdown_decreases (c : Caps) (s s' : H) (hI : Inv c s) (hc : s.cancelled = true) (e : Ev)
    (hs : step c s e = some s') : rank s' < rank s ∧ s'.cancelled = true := by
  cases Step.of_step hs with
  -- not enabled any more: the socket is closed, the participant out of its session, the main loop left, no frame held
  | arrive h => exact absurd (hI.closed_eq.trans hc) h.2
  | relayIn h => exact absurd hc h.1
  | frameOld h | frameBlocks h | frame h => exact absurd hc h
  | handleOk h | handleErrBlocks h | handleErr h => exact absurd hc h.2.1
  | idleBlocks h | idle h => exact absurd hc h.2
  | takeCauseBlocks h | takeCause h => cases (hI.main_live.mp (.inl h.1)).symm.trans hc
  | pumpPushOld _ h => cases (hI.held_old h.1).2.symm.trans hc
  -- a goroutine moves one stage nearer its end (3 > 1 > 0 pays for the message a hand-over adds to the scheduler queue),
  -- or a message leaves a queue
  | readFails h | recvExit h | dispatch h | pumpPush _ h | pumpExit h => exact ⟨by simp +arith only [rank, h], hc⟩
  | sendExit h => exact ⟨by simp +arith only [rank, h.1, ↓reduceIte, Bool.false_eq_true], hc⟩
  | finish h => exact ⟨by simp +arith only [rank, h.1, ↓reduceIte, reduceCtorEq], hc⟩
  -- `rank` is a sum that ends in `.. + s.mq + s.sendq`
  | writeDone h | writeFails h | sendDrop h => exact ⟨Nat.add_lt_add_left (Nat.sub_lt h.2.2 Nat.one_pos) _, hc⟩
  | drain h => exact ⟨Nat.add_lt_add_right (Nat.add_lt_add_left (Nat.sub_lt h.2 Nat.one_pos) _) _, hc⟩

end Hagall.Life
