/-
  C16 - entity actions keep the latest timestamp; an entity has at most one asset instance.
-/
import Hagall.Proofs.DataInv
namespace Hagall.Props.C16
open Hagall

variable (s : Session) (p : Part)

def stored (s : Session) (eid : Nat) (name : String) : Option Action :=
  s.actions.find? fun x => x.eid == eid && x.name == name

/-- a normalised timestamp names the instant its fields say -/
theorem instant_of_normalised (t : Ts) (h0 : 0 ≤ t.nanos) (h1 : t.nanos < 1000000000) : t.instant = (t.secs, t.nanos) := by
  simp [Ts.instant, Int.ediv_eq_zero_of_lt h0 h1, Int.emod_eq_of_lt h0 h1]

/-- carrying `q` seconds into `s` seconds, in periods of four -/
theorem ediv_four_add (s q : Int) : s / 4 + (s % 4 + q) / 4 = (s + q) / 4 := by
  conv => rhs; rw [← Int.mul_ediv_add_emod s 4, Int.add_assoc, Int.mul_add_ediv_left _ _ (by decide)]

/-- the key is the instant: its seconds in periods of four, the seconds into the period counted in nanoseconds -/
theorem key_eq (t : Ts) : t.key = (t.instant.1 / 4, t.instant.1 % 4 * 1000000000 + t.instant.2) := by
  simp only [Ts.key, Ts.instant, ediv_four_add, Int.emod_add_emod]

theorem instant_nanos (t : Ts) : 0 ≤ t.instant.2 ∧ t.instant.2 < 1000000000 :=
  ⟨Int.emod_nonneg _ (by decide), Int.emod_lt_of_pos _ (by decide)⟩

theorem radix_lt (d x y m n : Int) (hm : m < d) (hn : 0 ≤ n) (hd : 0 ≤ d) (h : x < y) : x * d + m < y * d + n :=
  calc x * d + m < x * d + d := Int.add_lt_add_left hm _
    _ = (x + 1) * d := by rw [Int.add_mul, Int.one_mul]
    _ ≤ y * d := Int.mul_le_mul_of_nonneg_right h hd
    _ ≤ y * d + n := Int.le_add_of_nonneg_right hn

/-- numbers in base `d`: with digits `m`, `n` below `d`, their order is that of the pairs -/
theorem radix_iff (d x y m n : Int) (hm : 0 ≤ m ∧ m < d) (hn : 0 ≤ n ∧ n < d) :
    x * d + m < y * d + n ↔ x < y ∨ (x = y ∧ m < n) := by
  have hd : 0 ≤ d := Int.le_trans hm.1 (Int.le_of_lt hm.2)
  constructor
  · intro h
    rcases Int.lt_trichotomy x y with hxy | rfl | hxy
    · exact .inl hxy
    · exact .inr ⟨rfl, Int.lt_of_add_lt_add_left h⟩
    · exact absurd (radix_lt d y x n m hn.2 hm.1 hd hxy) (Int.lt_asymm h)
  · rintro (hxy | ⟨rfl, h⟩)
    · exact radix_lt d x y m n hm.2 hn.1 hd hxy
    · exact Int.add_lt_add_left h _

/-- `a` seconds and `m` nanoseconds, counted in nanoseconds, by periods of four seconds -/
theorem nanos_eq (a m : Int) : a * 1000000000 + m = a / 4 * 4000000000 + (a % 4 * 1000000000 + m) := by
  conv => lhs; rw [← Int.ediv_mul_add_emod a 4]
  rw [Int.add_mul, Int.mul_assoc, Int.add_assoc]
  rfl

theorem rest_lt (a m : Int) (hm : 0 ≤ m ∧ m < 1000000000) :
    0 ≤ a % 4 * 1000000000 + m ∧ a % 4 * 1000000000 + m < 4000000000 :=
  ⟨Int.add_nonneg (Int.mul_nonneg (Int.emod_nonneg a (by decide)) (by decide)) hm.1,
   radix_lt 1000000000 (a % 4) 4 m 0 hm.2 (Int.le_refl 0) (by decide) (Int.emod_lt_of_pos a (by decide))⟩

/-- seconds `a`, `b` with `m`, `n` nanoseconds: in periods of four seconds the order is the same, since both sides
    compare the same two numbers of nanoseconds -/
theorem period_order (a b m n : Int) (hm : 0 ≤ m ∧ m < 1000000000) (hn : 0 ≤ n ∧ n < 1000000000) :
    (a / 4 < b / 4 ∨ (a / 4 = b / 4 ∧ a % 4 * 1000000000 + m < b % 4 * 1000000000 + n)) ↔ (a < b ∨ (a = b ∧ m < n)) := by
  rw [← radix_iff 1000000000 a b m n hm hn, ← radix_iff 4000000000 (a / 4) (b / 4) _ _ (rest_lt a m hm) (rest_lt b n hn),
    ← nanos_eq, ← nanos_eq]

/-- **The key the code compares is the instant.**  `instant` in modules/vikja/state.go returns periods of four seconds and
    nanoseconds into the period; comparing those pairs is comparing the instants, for all timestamps: no overflow, no
    saturation (the corrections F43b, F43c of the repair F43). -/
theorem key_order (a b : Ts) :
    (a.key.1 < b.key.1 ∨ (a.key.1 = b.key.1 ∧ a.key.2 < b.key.2)) ↔
    (a.instant.1 < b.instant.1 ∨ (a.instant.1 = b.instant.1 ∧ a.instant.2 < b.instant.2)) := by
  rw [key_eq, key_eq]
  exact period_order _ _ _ _ (instant_nanos a) (instant_nanos b)

/-- The numbers the code handles stay inside int64 whatever the fields hold (`secs` an int64, `nanos` an int32): the
    period between MinInt64 / 4 - 1 and MaxInt64 / 4 + 1, the rest below 4e9. -/
theorem key_in_range (t : Ts) (hs : -9223372036854775808 ≤ t.secs ∧ t.secs ≤ 9223372036854775807)
    (hn : -2147483648 ≤ t.nanos ∧ t.nanos ≤ 2147483647) :
    -2305843009213693953 ≤ t.key.1 ∧ t.key.1 ≤ 2305843009213693952 ∧ 0 ≤ t.key.2 ∧ t.key.2 < 4000000000 := by
  rw [key_eq]
  have hp : -2305843009213693953 ≤ t.instant.1 / 4 ∧ t.instant.1 / 4 ≤ 2305843009213693952 := by
    simp only [Ts.instant]
    omega
  exact ⟨hp.1, hp.2, rest_lt _ _ (instant_nanos t)⟩

-- one second and two thousand million nanoseconds less: the instant 999 s, older than 1000 s (the order of the fields says
-- the opposite: F43b); the top of the int64 range is the latest instant, not the oldest (F43); and past the top the order
-- goes on (F43c: {MaxInt64 s, 1e9 ns} is later than {MaxInt64 s, 5 ns})
example : (⟨1001, -2000000000⟩ : Ts).before ⟨1000, 0⟩ = true ∧ (⟨999, 2000000000⟩ : Ts).before ⟨1000, 0⟩ = false ∧
          (⟨1790000000, 0⟩ : Ts).before ⟨9223372036854775807, 0⟩ = true ∧
          (⟨9223372036854775807, 5⟩ : Ts).before ⟨9223372036854775807, 1000000000⟩ = true ∧
          (⟨-9223372036854775808, -500000000⟩ : Ts).before ⟨-9223372036854775808, 0⟩ = true := by decide +kernel

/-- `before` is a strict order: irreflexive and transitive, and its negation is total -/
theorem before_irrefl (a : Ts) : a.before a = false := by
  simp [Ts.before]

theorem before_trans (a b c : Ts) (h1 : a.before b = true) (h2 : b.before c = true) : a.before c = true := by
  rw [Ts.before_iff] at *
  rcases h1 with h1 | ⟨e1, h1⟩ <;> rcases h2 with h2 | ⟨e2, h2⟩
  · exact .inl (Int.lt_trans h1 h2)
  · exact .inl (e2 ▸ h1)
  · exact .inl (e1 ▸ h2)
  · exact .inr ⟨e1.trans e2, Int.lt_trans h1 h2⟩

theorem not_before_total (a b : Ts) : a.before b = false ∨ b.before a = false := by
  cases hab : a.before b
  · exact .inl rfl
  · refine .inr (Bool.eq_false_iff.mpr fun hba => ?_)
    have := before_trans a b a hab hba
    rw [before_irrefl] at this
    cases this

theorem actionOlder_eq_false_iff (a : Action) (t : Ts) (ht : a.ts = some t) :
    s.actionOlder a = false ↔ ∀ old t0, stored s a.eid a.name = some old → old.ts = some t0 → t.before t0 = false := by
  unfold Session.actionOlder stored
  rw [ht]
  cases s.actions.find? fun x => x.eid == a.eid && x.name == a.name with
  | none => exact ⟨fun _ _ _ h => (nomatch h), fun _ => rfl⟩
  | some old =>
    dsimp only
    constructor
    · rintro h _ t0 ⟨⟩ h0
      rwa [h0] at h
    · intro h
      cases hot : old.ts with
      | none => rfl
      | some t0 => exact h old t0 rfl hot

/-- An action is accepted exactly when it names an existing entity, has a name and a timestamp, and is
    not older than the action stored under the same entity and name. -/
theorem C16_accept_iff (a : Action) :
    s.actionOk a = true ↔
      a.name ≠ "" ∧ (∃ t, a.ts = some t ∧
        ∀ old t0, stored s a.eid a.name = some old → old.ts = some t0 → t.before t0 = false) ∧
      (s.findEnt a.eid).isSome = true := by
  unfold Session.actionOk
  cases hts : a.ts with
  | none => simp
  | some t =>
    simp only [Option.some.injEq, exists_eq_left', ← actionOlder_eq_false_iff s a t hts, Option.isNone_some,
      Bool.or_false, Bool.and_eq_true, Bool.not_eq_eq_eq_not, Bool.not_true, beq_eq_false_iff_ne, ne_eq, and_assoc]
    exact and_congr_right fun _ => and_comm

/-- An accepted action becomes the stored one for its entity and name (equal timestamps included: the
    later request wins), and every other stored action is untouched (that it is relayed once to the others is
    `C02_action`). -/
theorem C16_accepted_replaces (rid ots : Nat) (a : Action) (hok : s.actionOk a = true) :
    let s' := (s.vikja p (.action rid ots (some a))).1
    a ∈ s'.actions ∧
    (∀ x ∈ s'.actions, x.eid = a.eid ∧ x.name = a.name → x = a) ∧
    (∀ x, ¬(x.eid = a.eid ∧ x.name = a.name) → (x ∈ s'.actions ↔ x ∈ s.actions)) := by
  simp only [Session.vikja, hok, if_true]
  rw [s.setAction_upsert a]
  simpa only [Ne, Prod.mk.injEq] using mem_upsert (fun x : Action => (x.eid, x.name)) s.actions a

/-- Latest-timestamp-wins as an invariant step: whenever an action is accepted over a stored one, its
    timestamp is not before the stored timestamp - so along any history the stored timestamp of an
    (entity, name) pair never decreases. -/
theorem C16_monotone (a old : Action) (t t0 : Ts) (hok : s.actionOk a = true)
    (hst : stored s a.eid a.name = some old) (h0 : old.ts = some t0) (ht : a.ts = some t) :
    t.before t0 = false := by
  obtain ⟨_, ⟨t', ht', hall⟩, _⟩ := (C16_accept_iff s a).mp hok
  rw [ht] at ht'; cases ht'
  exact hall old t0 hst h0

/-- An action older than the stored one is refused with BAD_REQUEST; nothing changes, nothing is relayed. -/
theorem C16_older_refused (rid ots : Nat) (a : Action) (old : Action) (t t0 : Ts)
    (hst : stored s a.eid a.name = some old) (h0 : old.ts = some t0) (ht : a.ts = some t) (hb : t.before t0 = true) :
    s.vikja p (.action rid ots (some a)) = (s, [(p.conn, .error rid ecBadRequest)], .ok) :=
  if_neg fun hok => by rw [C16_monotone s a old t t0 hok hst h0 ht] at hb; cases hb

/-- Actions can only be attached to entities that exist. -/
theorem C16_action_needs_entity (rid ots : Nat) (a : Action) (h : s.findEnt a.eid = none) :
    s.vikja p (.action rid ots (some a)) = (s, [(p.conn, .error rid ecBadRequest)], .ok) :=
  if_neg fun hok => by have := actionOk_entity hok; rw [h] at this; cases this

/-- An accepted asset add leaves the entity with exactly one asset instance - the new one, under the
    next fresh instance id - and every other entity's asset untouched. -/
theorem C16_asset_single (rid ots eid : Nat) (assetId : String) (e : Entity)
    (hid : assetId ≠ "") (he : s.findEnt eid = some e) (ho : e.owner = p.pid) :
    let s' := (s.odal p (.assetAdd rid ots assetId eid)).1
    let a : Asset := ⟨s.assetCur + 1, assetId, p.pid, e.id⟩
    a ∈ s'.assets ∧ (∀ x ∈ s'.assets, x.eid = e.id → x = a) ∧
    (∀ x, x.eid ≠ e.id → (x ∈ s'.assets ↔ x ∈ s.assets)) ∧ s'.assetCur = s.assetCur + 1 := by
  simp only [Session.odal, beq_eq_false_iff_ne.mpr hid, he, ho, bne_self_eq_false, Bool.false_eq_true, if_false,
    Session.setAsset_eq]
  rw [s.setAsset_upsert]
  have h := mem_upsert (·.eid) s.assets ⟨s.assetCur + 1, assetId, p.pid, e.id⟩
  exact ⟨h.1, h.2.1, h.2.2, trivial⟩

/-- Assets can only be attached to entities that exist. -/
theorem C16_asset_needs_entity (rid ots eid : Nat) (assetId : String) (hid : assetId ≠ "") (h : s.findEnt eid = none) :
    s.odal p (.assetAdd rid ots assetId eid) = (s, [(p.conn, .error rid ecNotFound)], .ok) := by
  simp only [Session.odal, beq_eq_false_iff_ne.mpr hid, h, Bool.false_eq_true, if_false]

/-- Every newcomer is handed the current set of actions and asset instances. -/
theorem C16_newcomer (cfg : Cfg) (s : Session) (p : Part) (rid ots : Nat) :
    (cfg.vikja = true → (p.conn, Out.vikjaState s.actions) ∈ joinDeliveries cfg s p rid ots) ∧
    (cfg.odal = true → (p.conn, Out.odalState s.assets) ∈ joinDeliveries cfg s p rid ots) := by
  unfold joinDeliveries
  constructor
  · intro h
    rw [if_pos h]
    exact List.mem_append_left _ (List.mem_append_right _ (.head _))
  · intro h
    rw [if_pos h]
    exact List.mem_append_right _ (.head _)

/-- Along every history: at most one stored action per (entity, name), at most one asset instance per
    entity, asset instance ids pairwise distinct, and every action and asset attached to a live entity. -/
theorem C16_invariant (cfg : Cfg) (h : List Event) :
    ∀ s ∈ (run cfg {} h).1.sessions,
      (s.actions.map fun a => (a.eid, a.name)).Nodup ∧ (s.assets.map (·.eid)).Nodup ∧ (s.assets.map (·.id)).Nodup ∧
      (∀ a ∈ s.actions, (s.findEnt a.eid).isSome) ∧ (∀ a ∈ s.assets, (s.findEnt a.eid).isSome) := by
  intro s hs
  have := run_DataOK cfg h s hs
  exact ⟨this.act_keys, this.asset_eids, this.asset_ids, this.act_ent, this.asset_ent⟩

end Hagall.Props.C16
