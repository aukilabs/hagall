/-
  C06 - a departure removes exactly the leaver's non-persistent entities and attachments.
  `Session.leave` is the session part of `leaveSession`, the single function every way of leaving goes
  through (`Server.leave`: disconnect, handler error, session switch).
-/
import Hagall.Proofs.Handle
namespace Hagall.Props.C06
open Hagall

variable (cfg : Cfg) (s : Session) (pid : Nat)

/-- the entities a departure of `pid` removes -/
def Doomed (e : Entity) : Prop := e.owner = pid ∧ e.persist = false

theorem doomed_iff (e : Entity) : (e.owner == pid && !e.persist) = true ↔ Doomed pid e := by
  simp [Doomed]

/-- Exactly the leaver's non-persistent entities are removed; every other entity - those of other
    participants and the leaver's persistent ones - survives unchanged. -/
theorem C06_entities (e : Entity) :
    e ∈ (s.leave cfg pid).1.ents ↔ e ∈ s.ents ∧ ¬ Doomed pid e := by
  unfold Session.leave
  rw [List.mem_filter, ← doomed_iff, Bool.not_eq_true', Bool.not_eq_true]

theorem mem_dead (eid : Nat) : eid ∈ (s.doomed pid).map (·.id) ↔ ∃ e ∈ s.ents, Doomed pid e ∧ e.id = eid := by
  simp only [Session.doomed, List.mem_map, List.mem_filter, doomed_iff, and_assoc]

theorem mem_filter_dead {α : Type} (l : List α) (key : α → Nat) (a : α) :
    a ∈ l.filter (fun x => !((s.doomed pid).map (·.id)).contains (key x)) ↔
      a ∈ l ∧ ¬ ∃ e ∈ s.ents, Doomed pid e ∧ e.id = key a := by
  rw [List.mem_filter, ← mem_dead, Bool.not_eq_true', List.contains_eq_mem, decide_eq_false_iff_not]

/-- The components of the removed entities go with them; every other component stays. -/
theorem C06_components (c : Comp) :
    c ∈ (s.leave cfg pid).1.comps ↔ c ∈ s.comps ∧ ¬ ∃ e ∈ s.ents, Doomed pid e ∧ e.id = c.eid :=
  mem_filter_dead s pid s.comps (·.eid) c

/-- The entity actions of the removed entities go with them (vikja loaded); every other action stays. -/
theorem C06_actions (hv : cfg.vikja = true) (a : Action) :
    a ∈ (s.leave cfg pid).1.actions ↔ a ∈ s.actions ∧ ¬ ∃ e ∈ s.ents, Doomed pid e ∧ e.id = a.eid := by
  simp only [Session.leave, hv, if_true]
  exact mem_filter_dead s pid s.actions (·.eid) a

/-- The asset instances of the removed entities go with them (odal loaded); every other asset stays. -/
theorem C06_assets (ho : cfg.odal = true) (a : Asset) :
    a ∈ (s.leave cfg pid).1.assets ↔ a ∈ s.assets ∧ ¬ ∃ e ∈ s.ents, Doomed pid e ∧ e.id = a.eid := by
  simp only [Session.leave, ho, if_true]
  exact mem_filter_dead s pid s.assets (·.eid) a

/-- The leaver's subscriptions end, nobody else's do. -/
theorem C06_subscriptions (t q : Nat) :
    (t, q) ∈ (s.leave cfg pid).1.subs ↔ (t, q) ∈ s.subs ∧ q ≠ pid := by
  unfold Session.leave
  rw [List.mem_filter, bne_iff_ne]

/-- The leaver is no longer a participant, everybody else still is; ids and counters are untouched
    (in particular the participant id is not released). -/
theorem C06_participants :
    (s.leave cfg pid).1.parts = s.parts.filter (·.pid != pid) ∧ (s.leave cfg pid).1.pidCur = s.pidCur ∧
    (s.leave cfg pid).1.eidCur = s.eidCur ∧ (s.leave cfg pid).1.id = s.id ∧ (s.leave cfg pid).1.uuid = s.uuid :=
  ⟨rfl, rfl, rfl, rfl, rfl⟩

/-- The remaining participants are told exactly once about the departure, the leaver is not. -/
theorem C06_leave_broadcast (hc : (s.parts.map (·.conn)).Nodup) (hf : cfg.flags.contains fLeave = false)
    (q : Part) (hq : q ∈ s.parts) :
    countTo q.conn (.leaveBcast pid) (s.leave cfg pid).2 = if q.pid ≠ pid then 1 else 0 := by
  rw [Session.leave_deliveries, countTo_append, countTo_eq_zero, Nat.zero_add]
  · rw [gate_open hf]
    exact s.count_bcast hc pid _ q hq
  · intro d hd
    obtain ⟨eid, _, hd⟩ := List.mem_flatMap.mp hd
    exact forall_mem_gate (P := (·.2 ≠ Out.leaveBcast pid)) (Session.forall_mem_bcast fun _ _ _ => by nofun) d hd

/-- The remaining participants are told exactly once about each removed entity (and about no entity that
    survives); the leaver is told nothing. -/
theorem C06_delete_broadcasts (hc : (s.parts.map (·.conn)).Nodup) (he : (s.ents.map (·.id)).Nodup)
    (hf : cfg.flags.contains fEntityDelete = false) (q : Part) (hq : q ∈ s.parts) (eid : Nat) :
    ((q.pid ≠ pid ∧ ∃ e ∈ s.ents, Doomed pid e ∧ e.id = eid) →
        countTo q.conn (.entityDeleteBcast none eid) (s.leave cfg pid).2 = 1) ∧
    (¬(q.pid ≠ pid ∧ ∃ e ∈ s.ents, Doomed pid e ∧ e.id = eid) →
        countTo q.conn (.entityDeleteBcast none eid) (s.leave cfg pid).2 = 0) := by
  have hgate : countTo q.conn (.entityDeleteBcast none eid) (gate cfg fLeave (s.bcast pid (.leaveBcast pid))) = 0 :=
    countTo_eq_zero (forall_mem_gate (Session.forall_mem_bcast fun _ _ _ => nofun))
  rw [Session.leave_deliveries, countTo_append, hgate, Nat.add_zero]
  simp only [gate_open hf]
  have hdead : ((s.doomed pid).map (·.id)).Nodup := (List.Sublist.map _ List.filter_sublist).nodup he
  unfold countTo
  rw [count_flatMap_unique _ hdead _ _ eid, ← mem_dead]
  · have := s.count_bcast hc pid (.entityDeleteBcast none eid) q hq
    unfold countTo at this
    rw [this]
    refine ⟨fun h => by rw [if_pos h.2, if_pos h.1], fun h => ?_⟩
    by_cases h1 : eid ∈ (s.doomed pid).map (·.id)
    · rw [if_pos h1]; exact if_neg fun h2 => h ⟨h2, h1⟩
    · exact if_neg h1
  · exact fun i hi hm => hi (Out.entityDeleteBcast.inj (Session.mem_bcast hm).1).2.symm

end Hagall.Props.C06
