/-
  C20 - the ground-plane index is complete.

  The theorems are about the cell bookkeeping the Go code performs (`Model/GridIndex.lean`, the very
  functions the float32 model `Model/Grid.lean` executes and that is compared bit for bit with
  `modules/dagaz` on every run), for all grids, planes and spans:

  * appending a plane registers it in every cell of its span and touches no other plane (`reg_register`,
    `C20_register_complete`);
  * the four edge loops of `mergeQuads` leave the moved plane registered in every cell of its new span,
    whatever the old and the new span are, and touch no other plane (`C20_reRegister_complete`,
    `C20_reRegister_frame`, from `reg_passes`);
  * growing the grid in any direction moves every registration with its cell and invents none
    (`C20_grow_keeps`, `C20_grow_invents_nothing`);
  * a region query over a box of cells returns each plane registered in the box exactly once
    (`C20_region_exactly_once`);
  * hence, for every sequence of appends, moves and growths, every plane is registered in every cell of its
    span (`C20_index_complete`), and the full-grid query returns every stored plane exactly once
    (`C20_region_returns_each_once`).

  The spans themselves come out of float32 arithmetic.  What the theorems assume about it is stated in
  `IStep.ok`: a growth shifts every span by the number of cells added on the left / on top, and a move starts
  from the span the plane was registered with.  The replay of every explored history checks exactly that
  (`GX span-ok` lines of the grid driver) - it is the measured part of C20, together with the comparison
  against exact arithmetic in the Go harness.
-/
import Hagall.Proofs.GridIndex
namespace Hagall.Grid

theorem mem_span_cells {s : Span} {x y : Nat} :
    (x, y) ∈ grid2 (rangeIncl s.minY s.maxY) (rangeIncl s.minX s.maxX) ↔ s.has x y := by
  rw [mem_grid2, mem_rangeIncl, mem_rangeIncl, and_comm, and_assoc, Span.has]

theorem reg_register {c c' : Cells} {id a x y : Nat} {s : Span} (h : register c id s = some c') :
    Reg c' a x y ↔ Reg c a x y ∨ (a = id ∧ s.has x y) := by
  rw [reg_forCells (p := a = id) h fun _ l => by simp, mem_span_cells]

theorem C20_register_complete {c c' : Cells} {id : Nat} {s : Span} (h : register c id s = some c') :
    ∀ x y, s.has x y → Reg c' id x y :=
  fun _ _ hs => (reg_register h).mpr (.inr ⟨rfl, hs⟩)

theorem C20_reRegister_frame {c c' : Cells} {eid a : Nat} {s0 s1 : Span} (h : reRegister c eid s0 s1 = some c')
    (hne : a ≠ eid) (x y : Nat) : Reg c' a x y ↔ Reg c a x y :=
  (reg_passes (reRegister_eq_passes .. ▸ h) fun _ _ ha => absurd ha hne).trans (or_iff_left fun h => hne h.1)

/- One axis of a move, from `[a0, b0]` to `[a1, b1]`, seen from a point `x` of the new interval: the strip between
   the two lower ends holds `x` only if the lower end moved down, the strip between the two upper ends only if the
   upper end did not move down, and `x` lies in one of them or in both intervals. -/
theorem lt_of_lt_max {a0 a1 x : Nat} (hx : a1 ≤ x) (h : x < max a0 a1) : a1 < a0 :=
  Nat.lt_of_not_le fun hle => Nat.not_lt.mpr hx (Nat.max_eq_right hle ▸ h)
theorem le_of_min_lt {b0 b1 x : Nat} (hx : x ≤ b1) (h : min b0 b1 < x) : b0 ≤ b1 :=
  Nat.le_of_not_lt fun hlt => Nat.not_lt.mpr hx (Nat.min_eq_right (Nat.le_of_lt hlt) ▸ h)
theorem axis_cases {a0 b0 a1 b1 x : Nat} (h1 : a1 ≤ x) (h2 : x ≤ b1) :
    (min a0 a1 ≤ x ∧ x < max a0 a1) ∨ (min b0 b1 < x ∧ x ≤ max b0 b1) ∨
      ((a0 ≤ x ∧ x ≤ b0) ∧ max a0 a1 ≤ x ∧ x ≤ min b0 b1) := by
  rcases Nat.lt_or_ge x a0 with ha | ha
  · exact .inl ⟨Nat.le_trans (Nat.min_le_right ..) h1, Nat.lt_of_lt_of_le ha (Nat.le_max_left ..)⟩
  rcases Nat.lt_or_ge b0 x with hb | hb
  · exact .inr (.inl ⟨Nat.lt_of_le_of_lt (Nat.min_le_left ..) hb, Nat.le_trans h2 (Nat.le_max_right ..)⟩)
  · exact .inr (.inr ⟨⟨ha, hb⟩, Nat.max_le.mpr ⟨ha, h1⟩, Nat.le_min.mpr ⟨hb, h2⟩⟩)

/-- The moved plane ends up registered in every cell of its new span. -/
theorem C20_reRegister_complete {c c' : Cells} {eid : Nat} {s0 s1 : Span} (h : reRegister c eid s0 s1 = some c')
    (h0 : ∀ x y, s0.has x y → Reg c eid x y) : ∀ x y, s1.has x y → Reg c' eid x y := by
  intro x y ⟨hx0, hx1, hy0, hy1⟩
  rw [reRegister_eq_passes] at h
  refine (reg_passes h ?_).mpr ?_
  · -- a strip that contains a cell of the new span is an expanding strip
    simp only [List.forall_mem_cons, List.not_mem_nil, false_imp_iff, implies_true, and_true, true_imp_iff, mem_grid2,
      mem_rangeIncl, mem_rangeExcl, mem_rangeDown, decide_eq_true_eq, Bool.not_eq_true', decide_eq_false_iff_not, Nat.not_lt]
    exact ⟨fun h => lt_of_lt_max hx0 h.2.2, fun h => le_of_min_lt hx1 h.2.1, fun h => lt_of_lt_max hy0 h.1.2,
      fun h => le_of_min_lt hy1 h.1.1⟩
  · -- and every cell of the new span was in the old span or lies in one of the four strips
    simp only [List.mem_cons, List.not_mem_nil, exists_eq_or_imp, or_false, exists_eq_left, true_and, mem_grid2,
      mem_rangeIncl, mem_rangeExcl, mem_rangeDown]
    have hy : min s0.minY s1.minY ≤ y ∧ y ≤ max s0.maxY s1.maxY :=
      ⟨Nat.le_trans (Nat.min_le_right ..) hy0, Nat.le_trans hy1 (Nat.le_max_right ..)⟩
    rcases axis_cases hx0 hx1 with hl | hr | ⟨hxs, hxc⟩
    · exact .inr (.inl ⟨hy, hl⟩)
    · exact .inr (.inr (.inl ⟨hy, hr⟩))
    · rcases axis_cases hy0 hy1 with ht | hb | ⟨hys, _⟩
      · exact .inr (.inr (.inr (.inl ⟨ht, hxc⟩)))
      · exact .inr (.inr (.inr (.inr ⟨hb, hxc⟩)))
      · exact .inl (h0 x y ⟨hxs.1, hxs.2, hys.1, hys.2⟩)

theorem C20_grow_keeps (c : Cells) (xc yc : Nat) (left top : Bool) {a x y : Nat} (h : Reg c a x y) :
    Reg (grow c xc yc left top) a (x + if left then xc else 0) (y + if top then yc else 0) :=
  have ⟨l, hl, ha⟩ := h
  ⟨l, grow_get_shift c xc yc left top hl, ha⟩

theorem C20_grow_invents_nothing (c : Cells) (xc yc : Nat) (left top : Bool) {a x y : Nat}
    (h : Reg (grow c xc yc left top) a x y) :
    ∃ x0 y0, x = x0 + (if left then xc else 0) ∧ y = y0 + (if top then yc else 0) ∧ Reg c a x0 y0 := by
  obtain ⟨l, hl, ha⟩ := h
  rcases grow_get_cases c xc yc left top hl with rfl | ⟨x0, y0, hx, hy, h0⟩
  · cases ha
  · exact ⟨x0, y0, hx, hy, l, h0, ha⟩

/-- `GetRegion` returns each plane registered somewhere in the box of cells exactly once, and nothing else. -/
theorem C20_region_exactly_once {c : Cells} {minX minY maxX maxY : Nat} {ids : List Nat}
    (h : regionIds c minX minY maxX maxY = some ids) :
    ids.Nodup ∧ ∀ a, a ∈ ids ↔ ∃ x y, (minX ≤ x ∧ x < maxX) ∧ (minY ≤ y ∧ y < maxY) ∧ Reg c a x y := by
  obtain ⟨ls, hm, rfl⟩ := Option.map_eq_some_iff.mp h
  refine ⟨nodup_eraseDups _, fun a => ?_⟩
  rw [List.mem_eraseDups, List.mem_flatten]
  constructor
  · rintro ⟨l, hl, ha⟩
    obtain ⟨⟨x, y⟩, hxy, hget⟩ := (mapM_option_mem hm).mp hl
    have ⟨hy, hx⟩ := mem_grid2.mp hxy
    exact ⟨x, y, mem_rangeExcl.mp hx, mem_rangeExcl.mp hy, l, hget, ha⟩
  · rintro ⟨x, y, hx, hy, l, hget, ha⟩
    exact ⟨l, (mapM_option_mem hm).mpr ⟨(x, y), mem_grid2.mpr ⟨mem_rangeExcl.mpr hy, mem_rangeExcl.mpr hx⟩, hget⟩, ha⟩

/-- what the grid code does to its index: it appends a plane with a span, moves a plane from the span it
    is registered with to a new one (the edge loops), or grows -/
inductive IOp
  | append (s : Span)
  | move (i : Nat) (s1 : Span)
  | grow (xc yc : Nat) (left top : Bool)

structure Index where
  cells : Cells
  spans : List Span      -- spans[i]: where plane i is to be found

def Span.shift (s : Span) (dx dy : Nat) : Span := ⟨s.minX + dx, s.minY + dy, s.maxX + dx, s.maxY + dy⟩

def Index.step (ix : Index) : IOp → Option Index
  | .append s => (register ix.cells ix.spans.length s).map fun c => ⟨c, ix.spans ++ [s]⟩
  | .move i s1 =>
    match ix.spans[i]? with
    | some s0 => (reRegister ix.cells i s0 s1).map fun c => ⟨c, ix.spans.set i s1⟩
    | none => none
  | .grow xc yc left top =>
    some ⟨grow ix.cells xc yc left top, ix.spans.map (·.shift (if left then xc else 0) (if top then yc else 0))⟩

def Index.run (ix : Index) : List IOp → Option Index
  | [] => some ix
  | op :: ops => (ix.step op).bind (·.run ops)

/-- `NewRegularGrid(1, 1, ·)`: one empty cell, no planes -/
def Index.init : Index := ⟨[[[]]], []⟩

def Index.Complete (ix : Index) : Prop := ∀ i s, ix.spans[i]? = some s → ∀ x y, s.has x y → Reg ix.cells i x y
def Index.NoStray (ix : Index) : Prop := ∀ a x y, Reg ix.cells a x y → a < ix.spans.length

theorem Span.has_shift {s : Span} {dx dy x y : Nat} (h : (s.shift dx dy).has x y) :
    ∃ x0 y0, x = x0 + dx ∧ y = y0 + dy ∧ s.has x0 y0 :=
  let ⟨h1, h2, h3, h4⟩ := h
  ⟨x - dx, y - dy, (Nat.sub_add_cancel (Nat.le_trans (Nat.le_add_left ..) h1)).symm,
    (Nat.sub_add_cancel (Nat.le_trans (Nat.le_add_left ..) h3)).symm,
    Nat.le_sub_of_add_le h1, Nat.sub_le_of_le_add h2, Nat.le_sub_of_add_le h3, Nat.sub_le_of_le_add h4⟩

theorem concat_get_cases {α : Type} {l : List α} {a b : α} {i : Nat} (h : (l ++ [a])[i]? = some b) :
    l[i]? = some b ∨ (i = l.length ∧ a = b) := by
  rcases Nat.lt_trichotomy i l.length with hi | rfl | hi
  · exact .inl (by rwa [List.getElem?_append_left hi] at h)
  · exact .inr ⟨rfl, Option.some.inj (List.getElem?_concat_length.symm.trans h)⟩
  · rw [List.getElem?_eq_none (List.length_append ▸ Nat.succ_le_of_lt hi)] at h; cases h

theorem C20_step {ix ix' : Index} {op : IOp} (hc : ix.Complete) (hn : ix.NoStray) (h : ix.step op = some ix') :
    ix'.Complete ∧ ix'.NoStray := by
  cases op with
  | append s =>
    obtain ⟨c, hreg, rfl⟩ := Option.map_eq_some_iff.mp h
    refine ⟨fun i s' hs x y hxy => (reg_register hreg).mpr ?_, fun a x y hr => ?_⟩
    · rcases concat_get_cases hs with hs | ⟨rfl, rfl⟩
      · exact .inl (hc i s' hs x y hxy)
      · exact .inr ⟨rfl, hxy⟩
    · rw [List.length_append]
      rcases (reg_register hreg).mp hr with hr | ⟨rfl, _⟩
      · exact Nat.lt_add_right _ (hn a x y hr)
      · exact Nat.lt_succ_self _
  | move j s1 =>
    simp only [Index.step] at h
    split at h
    · rename_i s0 hj
      obtain ⟨c, hre, rfl⟩ := Option.map_eq_some_iff.mp h
      have hlt := (List.getElem?_eq_some_iff.mp hj).1
      refine ⟨fun i s' hs x y hxy => ?_, fun a x y hr => ?_⟩
      · by_cases hij : i = j
        · subst hij
          cases (List.getElem?_set_self hlt).symm.trans hs
          exact C20_reRegister_complete hre (hc i s0 hj) x y hxy
        · exact (C20_reRegister_frame hre hij x y).mpr
            (hc i s' ((List.getElem?_set_ne (Ne.symm hij)).symm.trans hs) x y hxy)
      · rw [List.length_set]
        by_cases ha : a = j
        · exact ha ▸ hlt
        · exact hn a x y ((C20_reRegister_frame hre ha x y).mp hr)
    · cases h
  | grow xc yc left top =>
    cases h
    refine ⟨fun i s' hs x y hxy => ?_, fun a x y hr => ?_⟩
    · obtain ⟨s0, hs0, rfl⟩ := Option.map_eq_some_iff.mp ((List.getElem?_map ..).symm.trans hs)
      obtain ⟨x0, y0, rfl, rfl, h0⟩ := Span.has_shift hxy
      exact C20_grow_keeps ix.cells xc yc left top (hc i s0 hs0 x0 y0 h0)
    · obtain ⟨x0, y0, _, _, h0⟩ := C20_grow_invents_nothing ix.cells xc yc left top hr
      exact (List.length_map ..).symm ▸ hn a x0 y0 h0

theorem C20_init : Index.init.Complete ∧ Index.init.NoStray := by
  refine ⟨fun i s hs => (nomatch hs), fun a x y ⟨l, hl, ha⟩ => ?_⟩
  obtain ⟨row, hrow, hl⟩ := Option.bind_eq_some_iff.mp hl
  cases List.mem_singleton.mp (List.mem_of_getElem? hrow)
  cases List.mem_singleton.mp (List.mem_of_getElem? hl)
  cases ha

/-- **C20, index completeness.** After any sequence of appends, moves and growths of the grid that the code
    carries out without panicking, every plane is registered in every cell of its span, and nothing that is
    not a plane is registered anywhere. -/
theorem C20_index_complete : ∀ (ops : List IOp) (ix ix' : Index), ix.Complete → ix.NoStray → ix.run ops = some ix' →
    ix'.Complete ∧ ix'.NoStray := by
  intro ops
  induction ops with
  | nil => intro ix ix' hc hn h; cases h; exact ⟨hc, hn⟩
  | cons op ops ih =>
    intro ix ix' hc hn h
    obtain ⟨ix1, hs, h⟩ := Option.bind_eq_some_iff.mp h
    obtain ⟨hc, hn⟩ := C20_step hc hn hs
    exact ih ix1 ix' hc hn h

/-- **C20, region over the grid.** In every reachable index a region query that covers the cells of a
    plane's (non-empty) span returns that plane exactly once, and returns only planes that exist. -/
theorem C20_region_returns_each_once (ops : List IOp) (ix : Index) (h : Index.init.run ops = some ix)
    {minX minY maxX maxY : Nat} {ids : List Nat} (hq : regionIds ix.cells minX minY maxX maxY = some ids) :
    (∀ i s, ix.spans[i]? = some s → s.minX ≤ s.maxX → s.minY ≤ s.maxY →
        minX ≤ s.minX → s.minX < maxX → minY ≤ s.minY → s.minY < maxY → ids.count i = 1) ∧
    (∀ a ∈ ids, a < ix.spans.length) := by
  obtain ⟨hc, hn⟩ := C20_index_complete ops _ ix C20_init.1 C20_init.2 h
  obtain ⟨hnd, hmem⟩ := C20_region_exactly_once hq
  refine ⟨fun i s hs hx hy h1 h2 h3 h4 => ?_, fun a ha => ?_⟩
  · have hr := hc i s hs s.minX s.minY ⟨Nat.le_refl _, hx, Nat.le_refl _, hy⟩
    exact hnd.count.trans (if_pos ((hmem i).mpr ⟨_, _, ⟨h1, h2⟩, ⟨h3, h4⟩, hr⟩))
  · obtain ⟨x, y, _, _, hr⟩ := (hmem a).mp ha
    exact hn a x y hr

/-- the premises are satisfiable: a plane appended to a grown grid, moved one cell right and down (the move
    registers it in cell (2, 0) as well, outside its new span: the edge loops over-register, which completeness allows) -/
example : (Index.init.run [.grow 2 1 true false, .append ⟨0, 0, 1, 1⟩, .move 0 ⟨1, 1, 2, 1⟩]).map (fun ix => (ix.cells, ix.spans))
    = some ([[[], [], [0]], [[], [0], [0]]], [⟨1, 1, 2, 1⟩]) := by decide +kernel

end Hagall.Grid
