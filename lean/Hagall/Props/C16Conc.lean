/-
  C16 under concurrency, the clause "the server keeps the action with the latest client timestamp": the comparison with
  the stored action and the storing are one critical section (`vikja.State.SetEntityActionIfLatest`), so whatever the
  order in which the critical sections of any number of concurrent requests for one entity and name run, the action kept
  is one with the latest timestamp, and that timestamp does not depend on the order.
  `C16_old_split_keeps_the_older_action` is the kernel-checked interleaving of the code before the repair F25, where the
  comparison (under the read lock) and the storing (under the write lock) were two critical sections.
-/
import Hagall.Props.C16
namespace Hagall.Props.C16Conc
open Hagall

/-- an action request for one entity and name: its client timestamp and who sent it -/
structure Act where
  ts : Ts
  who : Nat
deriving DecidableEq, Repr

/-- `SetEntityActionIfLatest`: refused when older than the stored one, else stored -/
def put (cur : Option Act) (a : Act) : Option Act :=
  match cur with
  | some c => if a.ts.before c.ts then some c else some a
  | none => some a

theorem not_before_trans {a b c : Ts} (h1 : a.before b = false) (h2 : b.before c = false) : a.before c = false := by
  rw [Ts.not_before_iff] at *
  refine ⟨Int.le_trans h2.1 h1.1, fun e => ?_⟩
  have e1 : a.instant.1 = b.instant.1 := Int.le_antisymm (e ▸ h2.1) h1.1
  exact Int.le_trans (h2.2 (e1.symm.trans e)) (h1.2 e1)

/-- neither before the other: the same instant (the same timestamp when both are normalised) -/
theorem not_before_antisymm {a b : Ts} (h1 : a.before b = false) (h2 : b.before a = false) : a.instant = b.instant := by
  rw [Ts.not_before_iff] at h1 h2
  have e1 : a.instant.1 = b.instant.1 := Int.le_antisymm h2.1 h1.1
  exact Prod.ext e1 (Int.le_antisymm (h2.2 e1.symm) (h1.2 e1))

/-- `C16_conc_keeps_latest` from a stored `c`, the form the induction needs: `put` keeps the later of two, and "not
    before" is transitive -/
theorem kept_is_latest (l : List Act) (c : Act) :
    ∃ k, l.foldl put (some c) = some k ∧ k ∈ c :: l ∧ ∀ a ∈ c :: l, k.ts.before a.ts = false := by
  induction l generalizing c with
  | nil => exact ⟨c, rfl, List.mem_singleton.2 rfl, fun a ha => List.mem_singleton.1 ha ▸ C16.before_irrefl _⟩
  | cons x xs ih =>
    simp only [List.foldl_cons, put, List.forall_mem_cons] at ih ⊢
    split
    next hb =>
      obtain ⟨k, hk, hm, hc, hxs⟩ := ih c
      exact ⟨k, hk, List.cons_subset_cons c (List.subset_cons_self x xs) hm,
        hc, not_before_trans hc ((C16.not_before_total _ _).resolve_left (Bool.eq_false_iff.mp · hb)), hxs⟩
    next hb =>
      obtain ⟨k, hk, hm, hx, hxs⟩ := ih x
      exact ⟨k, hk, List.mem_cons_of_mem c hm, not_before_trans hx (Bool.eq_false_iff.mpr hb), hx, hxs⟩

/-- **The latest is kept.**  Whatever the order in which the critical sections of concurrent action requests for one
    entity and name run, the server keeps one of the actions sent, and none of them has a later timestamp. -/
theorem C16_conc_keeps_latest (l : List Act) (hne : l ≠ []) :
    ∃ k, l.foldl put none = some k ∧ k ∈ l ∧ ∀ a ∈ l, k.ts.before a.ts = false := by
  cases l with
  | nil => exact absurd rfl hne
  | cons x xs => exact kept_is_latest xs x

/-- **The instant of the timestamp kept does not depend on the interleaving.** -/
theorem C16_conc_kept_timestamp_order_independent (l1 l2 : List Act) (hp : l1.Perm l2) :
    (l1.foldl put none).map (·.ts.instant) = (l2.foldl put none).map (·.ts.instant) := by
  by_cases h1 : l1 = []
  · subst h1; rw [hp.nil_eq]
  · obtain ⟨k1, hk1, hm1, hx1⟩ := C16_conc_keeps_latest l1 h1
    obtain ⟨k2, hk2, hm2, hx2⟩ := C16_conc_keeps_latest l2 (mt (fun e => (e ▸ hp).eq_nil) h1)
    rw [hk1, hk2]
    exact congrArg some (not_before_antisymm (hx1 k2 (hp.symm.subset hm2)) (hx2 k1 (hp.subset hm1)))

/-- the premises are met: three requests, the latest in the middle -/
example : [⟨⟨1000, 0⟩, 1⟩, ⟨⟨2000, 5⟩, 2⟩, ⟨⟨2000, 4⟩, 3⟩].foldl put none = some (⟨⟨2000, 5⟩, 2⟩ : Act) := by decide

/-! ### before the repair (F25): compare under the read lock, store under the write lock -/

inductive Move where
  | check (a : Act)    -- `State.EntityAction` and the comparison: the request goes on if it is not older than what is stored now
  | store (a : Act)    -- `State.SetEntityAction`, unconditionally
deriving Repr, DecidableEq

structure Old where
  cur : Option Act := none
  passed : List Act := []      -- requests that passed the comparison and have not stored yet
deriving Repr, DecidableEq

def stepOld (s : Old) : Move → Old
  | .check a => match s.cur with
    | some c => if a.ts.before c.ts then s else { s with passed := a :: s.passed }
    | none => { s with passed := a :: s.passed }
  | .store a => if s.passed.contains a then { cur := some a, passed := s.passed.erase a } else s

/-- **Before the repair (F25).**  Two participants set the same action at the same time: both pass the comparison against
    the empty state, the newer is stored, then the older: the server keeps the older one although it accepted a newer. -/
theorem C16_old_split_keeps_the_older_action :
    let a1 : Act := ⟨⟨1000, 0⟩, 1⟩
    let a2 : Act := ⟨⟨2000, 0⟩, 2⟩
    let s := [Move.check a1, .check a2, .store a2, .store a1].foldl stepOld {}
    s.cur = some a1 ∧ s.passed = [] ∧ a1.ts.before a2.ts = true := by decide

end Hagall.Props.C16Conc
