/-
  C12 - entity components behave as a map keyed by (component type, entity).
  The component store is abstracted to the *set* of its components; `KeysUnique` (an invariant, proved
  preserved here) makes that set a partial map.  Every component request acts on it exactly as the
  corresponding map operation, guarded as the property says.
-/
import Hagall.Proofs.DataInv
namespace Hagall.Props.C12
open Hagall

def KeysUnique (s : Session) : Prop := (s.comps.map fun c => (c.tid, c.eid)).Nodup

def Present (s : Session) (tid eid : Nat) : Prop := ∃ c ∈ s.comps, c.tid = tid ∧ c.eid = eid

variable (cfg : Cfg) (s : Session) (p : Part)

theorem findComp_isSome_iff (tid eid : Nat) : (s.findComp tid eid).isSome = true ↔ Present s tid eid := by
  unfold Session.findComp Present
  rw [List.find?_isSome]
  simp only [Bool.and_eq_true, beq_iff_eq]

/-- the tests the handlers make, for an occupied key and for a free one -/
theorem present {tid eid : Nat} (h : Present s tid eid) : (s.findComp tid eid).isNone = false :=
  Option.isNone_eq_false_iff.mpr ((findComp_isSome_iff s tid eid).mpr h)

theorem absent {tid eid : Nat} (h : ¬ Present s tid eid) : (s.findComp tid eid).isNone = true :=
  Option.isSome_eq_false_iff.mp (Bool.eq_false_iff.mpr fun hs => h ((findComp_isSome_iff s tid eid).mp hs))

/-- An add is accepted exactly when the entity exists, the type is registered and the key is free;
    the store then gains exactly that component, the requester is answered, and the key stays unique. -/
theorem C12_add_accepted (rid ots tid eid : Nat) (data : Bytes) (e : Entity)
    (he : s.findEnt eid = some e) (hid : e.id = eid) (ht : (s.typeName tid).isSome) (hfree : ¬ Present s tid eid)
    (hu : KeysUnique s) :
    let r := s.compAdd cfg p rid ots tid eid data
    r.2.2 = .ok ∧ (p.conn, Out.compAddResp rid) ∈ r.2.1 ∧ r.1.comps = s.comps ++ [⟨tid, eid, data⟩] ∧ KeysUnique r.1 := by
  subst hid
  simp only [Session.compAdd, he, Option.isNone_eq_false_iff.mpr ht, Option.isSome_eq_false_iff.mpr (absent s hfree),
    Bool.false_eq_true, if_false]
  exact ⟨trivial, List.mem_cons_self .., trivial,
    nodup_map_concat hu fun c hc heq => hfree ⟨c, hc, congrArg Prod.fst heq, congrArg Prod.snd heq⟩⟩

/-- An add for an unknown entity or an unregistered type is refused with NOT_FOUND, for an occupied key
    with CONFLICT; in every case nothing changes and nothing is relayed. -/
theorem C12_add_refused (rid ots tid eid : Nat) (data : Bytes)
    (h : s.findEnt eid = none ∨ (s.typeName tid).isNone ∨ (∃ e, s.findEnt eid = some e ∧ (s.findComp tid e.id).isSome)) :
    ∃ code, (code = ecNotFound ∨ code = ecConflict) ∧
      s.compAdd cfg p rid ots tid eid data = (s, [(p.conn, .error rid code)], .ok) := by
  unfold Session.compAdd
  rcases h with he | ht | ⟨e, he, hk⟩
  · rw [he]
    exact ⟨ecNotFound, .inl rfl, rfl⟩
  · cases s.findEnt eid with
    | none => exact ⟨ecNotFound, .inl rfl, rfl⟩
    | some e => exact ⟨ecNotFound, .inl rfl, if_pos ht⟩
  · rw [he]
    by_cases ht : (s.typeName tid).isNone
    · exact ⟨ecNotFound, .inl rfl, if_pos ht⟩
    · exact ⟨ecConflict, .inr rfl, (if_neg ht).trans (if_pos hk)⟩

/-- An update of a component that exists replaces the data under its key and touches nothing else. -/
theorem C12_update_present (ots tid eid : Nat) (data : Bytes) (e : Entity)
    (he : s.findEnt eid = some e) (hid : e.id = eid) (hc : Present s tid eid) :
    let s' := (s.compUpdate cfg p ots tid eid data).1
    (∀ c, c ∈ s'.comps ↔ (c ∈ s.comps ∧ ¬(c.tid = tid ∧ c.eid = eid)) ∨ c = ⟨tid, eid, data⟩) ∧
    (s'.comps.map fun c => (c.tid, c.eid)) = (s.comps.map fun c => (c.tid, c.eid)) := by
  subst hid
  simp only [Session.compUpdate, he, present s hc, Bool.false_eq_true, if_false]
  constructor
  · intro c
    refine (mem_replace_key (f := fun c : Comp => (c.tid, c.eid)) (a := ⟨tid, e.id, data⟩)).trans ?_
    have hq : ∃ y ∈ s.comps, (y.tid, y.eid) = (tid, e.id) := hc.imp fun y hy => ⟨hy.1, by rw [hy.2.1, hy.2.2]⟩
    rw [and_iff_left hq, Ne, Prod.mk.injEq]
  · exact map_replace_key (f := fun c : Comp => (c.tid, c.eid)) (a := ⟨tid, e.id, data⟩)

/-- An update of a component that was never added (or no longer exists), or of an unknown entity,
    changes nothing and is relayed to no one. -/
theorem C12_update_absent (ots tid eid : Nat) (data : Bytes)
    (h : s.findEnt eid = none ∨ ∃ e, s.findEnt eid = some e ∧ ¬ Present s tid e.id) :
    s.compUpdate cfg p ots tid eid data = (s, [], .ok) := by
  rcases h with h | ⟨e, he, hk⟩
  · simp only [Session.compUpdate, h]
  · simp only [Session.compUpdate, he, absent s hk, if_true]

/-- A delete of a component that exists removes exactly that key. -/
theorem C12_delete_present (rid ots tid eid : Nat) (e : Entity)
    (he : s.findEnt eid = some e) (hid : e.id = eid) (hc : Present s tid eid) :
    let r := s.compDelete cfg p rid ots tid eid
    (∀ c, c ∈ r.1.comps ↔ c ∈ s.comps ∧ ¬(c.tid = tid ∧ c.eid = eid)) ∧ (p.conn, Out.compDeleteResp rid) ∈ r.2.1 := by
  subst hid
  simp only [Session.compDelete, he, present s hc, Bool.false_eq_true, if_false]
  exact ⟨fun c => by rw [List.mem_filter, Bool.not_eq_true', ← Bool.not_eq_true, Bool.and_eq_true, beq_iff_eq, beq_iff_eq],
    List.mem_append_right _ (List.mem_singleton.mpr rfl)⟩

/-- A delete of a component that does not exist (or of an unknown entity) is refused with NOT_FOUND
    and changes nothing. -/
theorem C12_delete_absent (rid ots tid eid : Nat)
    (h : s.findEnt eid = none ∨ ∃ e, s.findEnt eid = some e ∧ ¬ Present s tid e.id) :
    s.compDelete cfg p rid ots tid eid = (s, [(p.conn, .error rid ecNotFound)], .ok) := by
  rcases h with h | ⟨e, he, hk⟩
  · simp only [Session.compDelete, h]
  · simp only [Session.compDelete, he, absent s hk, if_true]

/-- Listing a type returns exactly its current components. -/
theorem C12_list (rid tid hint : Nat) (h0 : tid ≠ 0) :
    ∃ l, s.core cfg p (.compList rid tid) hint = (s, [(p.conn, .compListResp rid l)], .ok) ∧
      ∀ c, c ∈ l ↔ c ∈ s.comps ∧ c.tid = tid :=
  ⟨s.comps.filter (·.tid == tid), if_neg (mt beq_iff_eq.mp h0), fun c => by rw [List.mem_filter, beq_iff_eq]⟩

/-- Removing an entity - on request or because its owner left - removes all of its components and
    no others. -/
theorem C12_entity_removed (eid : Nat) :
    ∀ c, c ∈ (s.removeEntity eid).comps ↔ c ∈ s.comps ∧ c.eid ≠ eid := by
  intro c
  unfold Session.removeEntity
  rw [List.mem_filter, bne_iff_ne]

/-- `KeysUnique`, "every component belongs to a live entity" and "every component's type is registered"
    hold in every session of every state reachable by any history - the store really is a partial map. -/
theorem C12_map_invariant (cfg : Cfg) (h : List Event) :
    ∀ s ∈ (run cfg {} h).1.sessions,
      KeysUnique s ∧ (∀ c ∈ s.comps, (s.findEnt c.eid).isSome) ∧ (∀ c ∈ s.comps, (s.typeName c.tid).isSome) := by
  intro s hs
  have := run_DataOK cfg h s hs
  exact ⟨this.comp_keys, this.comp_ent, this.comp_type⟩

end Hagall.Props.C12
