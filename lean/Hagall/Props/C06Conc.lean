import Hagall.Props.C01Conc
/-
  C06 / C12 under concurrency, the clause "everything attached to a removed entity goes with it, and later joiners are
  handed what survives": the components of an entity follow the protocol of `Model/Handover` - the entity leaves the
  session (O1: Session.RemoveEntity and the delete broadcast), then its components are removed (O2:
  EntityComponentStore.DeleteByEntityID); a newcomer takes its place (N1), is handed the entities (N2) and the components
  (N3).  Since the repair F47 the components handed are those of the entities handed (`filtered = true`); before it the
  session state carried every component of the store (`filtered = false`), also of an entity that had just left the
  session.  `action` reads "the store holds a component of the entity", `hasAct` "the newcomer's view holds it".
  That the join handler hands only the components of the entities it hands is the correspondence's to check
  (`corpus/conc/F47-*.hist`, the view monitor on every explored schedule).
-/
namespace Hagall.Props.C06Conc
open Hagall.Handover

/-- **A newcomer is handed no component of an entity that is leaving the session**, whatever the interleaving of its
    join with the removal: in the end its view has neither the entity nor a component of it. -/
theorem C06_conc_newcomer_holds_no_component_of_a_removed_entity :
    ∀ l ∈ interleavings, (run true l).hasEnt = false ∧ (run true l).hasAct = false ∧
      (run true l).there = false ∧ (run true l).action = false := fun l hl =>
  -- the same runs as for an action (F23), read for a component
  have ⟨ht, ha, he, hc⟩ := C01Conc.C01_conc_newcomer_consistent l hl
  ⟨he, hc, ht, ha⟩

/-- **Before the repair (F47)**: the entity has left the session, the newcomer takes its place and is handed the session
    state before the components are removed: a component of an entity that is not in that state, which no broadcast will
    ever take back (the entity's deletion was relayed before the newcomer was a member). -/
theorem C06_old_unfiltered_state_keeps_a_component :
    (run false [.O1, .N1, .N2, .N3, .O2]).hasAct = true ∧ (run false [.O1, .N1, .N2, .N3, .O2]).hasEnt = false ∧
    (run false [.O1, .N1, .N2, .N3, .O2]).gone = false := by decide

end Hagall.Props.C06Conc
