/-
  C02 - each accepted change is relayed exactly once to every other session member, never to its
  author; a refused request is relayed to no one.  Session-level (per step) theorems; the hypotheses
  `conns nodup` hold in every reachable state (`Session.MembersOK`, `run_WF` in Hagall/Proofs/Invariant.lean).
-/
import Hagall.Proofs.Basic
namespace Hagall.Props.C02
open Hagall

variable (cfg : Cfg) (s : Session) (p : Part)

/-- entity add: the requester is answered, every other member gets exactly one add broadcast carrying
    the new entity, nothing else is relayed -/
theorem C02_entityAdd (rid ots : Nat) (persist : Bool) (flag : Nat) (pose : Option Nat)
    (hc : (s.parts.map (·.conn)).Nodup) (hf : cfg.flags.contains fEntityAdd = false) :
    let r := s.entityAdd cfg p rid ots persist flag pose
    let m := Out.entityAddBcast ots ⟨s.eidCur + 1, p.pid, flag, pose.getD 0⟩
    RelayedOnce s p.pid m r.2.1 ∧ OnlyRelay m r.2.1 ∧ countTo p.conn (.entityAddResp rid (s.eidCur + 1)) r.2.1 = 1 := by
  simp only [Session.entityAdd, gate_open hf, Bool.false_eq_true, if_false]
  refine and_assoc.mp ⟨relayed_of_perm s hc p.pid (rest := [_]) (.refl _) (List.forall_mem_singleton.mpr rfl), ?_⟩
  rw [countTo_cons, if_pos rfl, Session.count_bcast_ne _ _ _ _ _ (by nofun)]

/-- entity delete by the owner: exactly one delete broadcast to every other member -/
theorem C02_entityDelete (rid ots eid : Nat) (e : Entity) (he : s.findEnt eid = some e) (ho : e.owner = p.pid)
    (hc : (s.parts.map (·.conn)).Nodup) (hf : cfg.flags.contains fEntityDelete = false) :
    let r := s.entityDelete cfg p rid ots eid
    let m := Out.entityDeleteBcast (some ots) e.id
    RelayedOnce s p.pid m r.2.1 ∧ OnlyRelay m r.2.1 := by
  simp only [Session.entityDelete, he, ho, bne_self_eq_false, Bool.false_eq_true, if_false, gate_open hf]
  exact relayed_of_perm s hc p.pid (rest := [_]) (.refl _) (List.forall_mem_singleton.mpr rfl)

/-- a refused entity delete (unknown entity, or not the owner) is relayed to no one and changes nothing -/
theorem C02_entityDelete_refused (rid ots eid : Nat)
    (h : s.findEnt eid = none ∨ ∃ e, s.findEnt eid = some e ∧ e.owner ≠ p.pid) :
    let r := s.entityDelete cfg p rid ots eid
    r.1 = s ∧ NoRelay r.2.1 := by
  have one : ∀ code, NoRelay [(p.conn, Out.error rid code)] := fun _ => List.forall_mem_singleton.mpr rfl
  unfold Session.entityDelete
  rcases h with h | ⟨e, he, hne⟩
  · rw [h]; exact ⟨rfl, one _⟩
  · rw [he]; dsimp only; rw [if_pos (bne_iff_ne.mpr hne)]; exact ⟨rfl, one _⟩

/-- a processed pose update of an own entity: exactly one pose broadcast, carrying the pose sent -/
theorem C02_updatePose (ots eid v : Nat) (e : Entity) (he : s.findEnt eid = some e) (ho : e.owner = p.pid)
    (hc : (s.parts.map (·.conn)).Nodup) (hf : cfg.flags.contains fPose = false) :
    let r := s.updatePose cfg p ots eid (some v)
    let m := Out.poseBcast ots e.id v
    RelayedOnce s p.pid m r.2.1 ∧ OnlyRelay m r.2.1 := by
  simp only [Session.updatePose, he, ho, bne_self_eq_false, Bool.false_eq_true, if_false, gate_open hf]
  exact relayed_of_perm s hc p.pid (rest := []) (.refl _) (List.forall_mem_nil _)

/-- an untargeted custom message within the limit: exactly once to every other member -/
theorem C02_custom (ots : Nat) (body : Bytes) (hlen : body.length ≤ 10240)
    (hc : (s.parts.map (·.conn)).Nodup) (hf : cfg.flags.contains fCustom = false) :
    let r := s.custom cfg p ots [] body
    RelayedOnce s p.pid (.customBcast ots p.pid body) r.2.1 ∧ OnlyRelay (.customBcast ots p.pid body) r.2.1 := by
  -- 10240 is `customMessageMaxSize`, which Gen/AbsCustom ties to the constant of the source
  have hle : ¬ body.length > customMessageMaxSize := Nat.not_lt.mpr hlen
  simp only [Session.custom, hle, if_false, gate_open hf, List.length_nil, bne_self_eq_false, Bool.false_eq_true]
  exact relayed_of_perm s hc p.pid (rest := []) (.refl _) (List.forall_mem_nil _)

/-- an accepted entity action (vikja): exactly one action broadcast to every other member -/
theorem C02_action (rid ots : Nat) (a : Action) (hc : (s.parts.map (·.conn)).Nodup) (hacc : s.actionOk a = true) :
    let r := s.vikja p (.action rid ots (some a))
    RelayedOnce s p.pid (.actionBcast ots a) r.2.1 ∧ OnlyRelay (.actionBcast ots a) r.2.1 := by
  simp only [Session.vikja, hacc, if_true, Session.bcast_congr (s.setAction_parts a)]
  exact relayed_of_perm s hc p.pid (rest := [_]) (.refl _) (List.forall_mem_singleton.mpr rfl)

/-- a refused entity action is relayed to no one and changes nothing -/
theorem C02_action_refused (rid ots : Nat) (act : Option Action) (h : ∀ a, act = some a → s.actionOk a = false) :
    s.vikja p (.action rid ots act) = (s, [(p.conn, .error rid ecBadRequest)], .ok) := by
  cases act with
  | none => rfl
  | some a => exact if_neg (ne_true_of_eq_false (h a rfl))

/-- an accepted asset-instance add (odal): exactly one broadcast to every other member -/
theorem C02_assetAdd (rid ots : Nat) (assetId : String) (eid : Nat) (e : Entity)
    (hid : assetId ≠ "") (he : s.findEnt eid = some e) (ho : e.owner = p.pid) (hc : (s.parts.map (·.conn)).Nodup) :
    let r := s.odal p (.assetAdd rid ots assetId eid)
    let a : Asset := ⟨s.assetCur + 1, assetId, p.pid, e.id⟩
    RelayedOnce s p.pid (.assetAddBcast ots a) r.2.1 ∧ OnlyRelay (.assetAddBcast ots a) r.2.1 := by
  simp only [Session.odal, beq_eq_false_iff_ne.mpr hid, he, ho, bne_self_eq_false, Bool.false_eq_true, if_false,
    Session.bcast_congr (Session.setAsset_parts _ _)]
  exact relayed_of_perm s hc p.pid (rest := [_]) (.refl _) (List.forall_mem_singleton.mpr rfl)

end Hagall.Props.C02
