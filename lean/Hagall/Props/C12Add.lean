import Hagall.Model.AddOnce
/-
  C12 under concurrency, the clause "a component is added at most once per (type, entity)": whatever the interleaving of
  adds and deletes of one key, every accepted add but the one still stored has been taken out by an accepted delete -
  two adds are never both accepted with no delete between them.  That `Add` and `Delete` are one critical section each
  under the write lock is `Gen/AbsOrder.component_add_is_one_critical_section`, on the regenerated facts.
-/
namespace Hagall.Props.C12Add
open Hagall.AddOnce

def Inv (s : St) : Prop := s.accepted = s.removed + (if s.present then 1 else 0)

theorem Inv_step (s : St) (m : Move) (h : Inv s) : Inv (step false s m) := by
  unfold Inv at *
  cases m <;> cases hp : s.present <;> simp [step, hp] at h ⊢ <;> omega

/-- from an empty key, for every interleaving: accepted adds = accepted deletes + (1 if the key is held) -/
theorem C12_conc_add_accepted_once (ms : List Move) :
    (run false {} ms).accepted = (run false {} ms).removed + (if (run false {} ms).present then 1 else 0) :=
  List.foldlRecOn (motive := Inv) ms _ (by simp [Inv]) fun s hs m _ => Inv_step s m hs

/-- with no delete in the interleaving at most one add is accepted, however many ask -/
theorem C12_conc_at_most_one_without_delete (ms : List Move) (h : ∀ m ∈ ms, ∃ c, m = .add c) :
    (run false {} ms).accepted ≤ 1 := by
  have hr : (run false {} ms).removed = 0 :=
    List.foldlRecOn (motive := fun s : St => s.removed = 0) ms _ rfl fun s hs m hm => by
      obtain ⟨c, rfl⟩ := h m hm
      simp only [step, Bool.false_eq_true, if_false]
      split <;> exact hs
  rw [C12_conc_add_accepted_once ms, hr]
  split <;> omega

-- the premises are met and the count is reached: three adders, one delete
example : (run false {} [.add 1, .add 2, .delete 3, .add 2, .add 1]).accepted = 2 ∧
          (run false {} [.add 1, .add 2, .delete 3, .add 2, .add 1]).removed = 1 := by decide

/-- a store that looks the key up in one critical section and inserts in another accepts two adds of one key -/
theorem C12_split_add_accepts_twice :
    (run true {} [.add 1, .add 2, .add 1, .add 2]).accepted = 2 ∧ (run true {} [.add 1, .add 2, .add 1, .add 2]).removed = 0 := by decide

end Hagall.Props.C12Add
