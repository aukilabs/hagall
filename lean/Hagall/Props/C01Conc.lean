/-
  C01 / C16 under concurrency, on three models with one transition per critical section.

  `Model/Attach.lean`, the clause "actions can only be attached to entities that exist, and every newcomer is handed the
  current set": for every interleaving of an entity's removal with any number of participants setting actions on it,
  once everybody is between requests the module state holds no action of an entity that is gone.
  `C01_old_order_keeps_a_stale_action` is the kernel-checked interleaving of the code before the repair F21.

  `Model/Handover.lean` (F23): one participant joins while the owner of an entity leaves; the ten interleavings are
  evaluated, `C01_old_handover_leaves_a_stale_action` is the one that went wrong before the repair.

  `Model/Writers.lean` (F26, recorded, not repaired): several participants write one item while a member listens.  The
  code applies a write under the store's lock and relays it after the lock is released; were the two one critical
  section the listener would follow the server (`C01_conc_atomic_writes_converge`), as it is two writers suffice for it
  not to (`C01_concurrent_writers_diverge`).
-/
import Hagall.Model.Attach
import Hagall.Model.Handover
import Hagall.Model.Writers
namespace Hagall.Props.C01Conc
open Hagall.Attach

/-- an action of an entity that is gone is always about to be released by somebody -/
def Inv (s : St) : Prop :=
  s.action = true → s.there = false → (s.owner = 1 ∨ ∃ c, s.setter c = .stored)

theorem Inv_init : Inv {} := nofun

theorem Inv_set {s : St} (h : Inv s) {c : Nat} (p : SPC) (hc : s.setter c ≠ .stored) : Inv (s.set c p) := fun ha ht =>
  (h ha ht).imp_right fun ⟨c', h2⟩ => ⟨c', by simp [St.set, show c' ≠ c from fun e => hc (e ▸ h2), h2]⟩

theorem Inv_step (d : Bool) (s : St) (h : Inv s) (m : Move) : Inv (step false d s m) := by
  cases m with
  | owner =>
    simp only [step, Bool.false_eq_true, if_false]
    split
    · exact fun _ _ => .inl rfl
    · exact nofun
    · exact h
  | setter c =>
    simp only [step, Bool.false_eq_true, if_false]
    split
    · next hc =>
      split
      · exact Inv_set h _ (by simp [hc])
      · exact h
    · next hc =>
      split
      · exact Inv_set h _ (by simp [hc])
      · exact fun _ _ => .inr ⟨c, by simp [St.set]⟩
    · split
      · next ht => exact fun _ ht' => by simp [St.set, ht] at ht'
      · exact fun ha => by simp [St.set] at ha

/-- the statement for either kind of attachment (`d`: the store refuses what is already there) -/
theorem nothing_outlives_entity (d : Bool) (ms : List Move)
    (hown : (run false d {} ms).owner = 2) (hq : ∀ c, (run false d {} ms).setter c = .idle)
    (hgone : (run false d {} ms).there = false) : (run false d {} ms).action = false := by
  have h : Inv (run false d {} ms) := List.foldlRecOn ms _ Inv_init fun s hs m _ => Inv_step d s hs m
  refine Bool.eq_false_iff.mpr fun ha => ?_
  rcases h ha hgone with h1 | ⟨c, h2⟩
  · rw [hown] at h1; cases h1
  · rw [hq c] at h2; cases h2

/-- **No action outlives its entity.** After any interleaving of the entity's removal (with the module clean-up that
    follows it) and any number of action requests by any number of participants, whenever the owner's handler is done and
    no setter is inside a request, an entity that is gone has no action in the module state - so no newcomer is handed
    one. -/
theorem C01_conc_action_never_outlives_entity (ms : List Move)
    (hown : (run false false {} ms).owner = 2) (hq : ∀ c, (run false false {} ms).setter c = .idle)
    (hgone : (run false false {} ms).there = false) : (run false false {} ms).action = false :=
  nothing_outlives_entity false ms hown hq hgone

/-- the premises are satisfiable: the owner leaves while a participant's action is in flight -/
example : let s := run false false {} [.setter 5, .owner, .setter 5, .owner, .setter 5]
    s.owner = 2 ∧ s.setter 5 = .idle ∧ s.there = false ∧ s.action = false := by decide

/-- **Before the repair (F21).** The module clean-up runs, a participant finds the entity and stores an action, the entity
    is removed: the action stays although everybody is done. -/
theorem C01_old_order_keeps_a_stale_action :
    let s := run true false {} [.owner, .setter 5, .setter 5, .owner]
    s.owner = 2 ∧ s.setter 5 = .idle ∧ s.there = false ∧ s.action = true := by decide

open Hagall.Handover in
/-- `Hagall.Handover.interleavings` (Model/Handover.lean) is every merge of the two sequences: 10 = 5! / (3! 2!) lists,
    each a permutation of the five steps that keeps O1 before O2 and N1 before N2 before N3 -/
theorem interleavings_complete :
    interleavings.length = 10 ∧ interleavings.Nodup ∧
    ∀ l ∈ interleavings, l.length = 5 ∧ l.filter (fun x => x == .O1 || x == .O2) = [.O1, .O2] ∧
      l.filter (fun x => x == .N1 || x == .N2 || x == .N3) = [.N1, .N2, .N3] := by decide +kernel

open Hagall.Handover in
/-- **What a newcomer holds is consistent, whatever the interleaving with the owner's departure**: in the end the entity
    is gone from the session, the module holds no action of it, and the newcomer's view has neither the entity nor an
    action of it. -/
theorem C01_conc_newcomer_consistent :
    ∀ l ∈ interleavings, (run true l).there = false ∧ (run true l).action = false ∧
      (run true l).hasEnt = false ∧ (run true l).hasAct = false := by decide +kernel

open Hagall.Handover in
/-- **Before the repair (F23)**: the entity is removed, the participant joins and is handed the module's state before the
    module has released the action: its view keeps an action of an entity that does not exist, and nothing will tell it. -/
theorem C01_old_handover_leaves_a_stale_action :
    (run false [.O1, .N1, .N2, .N3, .O2]).hasAct = true ∧ (run false [.O1, .N1, .N2, .N3, .O2]).hasEnt = false ∧
    (run false [.O1, .N1, .N2, .N3, .O2]).action = false := by decide

open Hagall.Writers in
/-- **If a write were applied and relayed in one critical section**, the listener's view would equal the server's state
    after every step of every interleaving of any number of writers. -/
theorem C01_conc_atomic_writes_converge (ms : List Writers.Move) (hms : ∀ m ∈ ms, m.atomic = true) :
    (Writers.run {} ms).view = (Writers.run {} ms).srv := by
  refine List.foldlRecOn (motive := fun s : Writers.St => s.view = s.srv) ms _ rfl fun s _ m hm => ?_
  cases m with
  | write w v => rfl
  | _ => cases hms _ hm

open Hagall.Writers in
/-- **As the code is (F26).**  Two writers: both writes are applied, then relayed in the other order; everybody is done,
    the server holds the second write, the listener the first. -/
theorem C01_concurrent_writers_diverge :
    let s := run {} [.apply 1 11, .apply 2 22, .relay 2, .relay 1]
    s.pending = [] ∧ s.srv = some 22 ∧ s.view = some 11 := by decide

open Hagall.Writers in
/-- one writer alone is followed faithfully: the split matters only between writers -/
example : let s := run {} [.apply 1 11, .relay 1, .apply 1 12, .relay 1]
    s.pending = [] ∧ s.srv = some 12 ∧ s.view = some 12 := by decide

end Hagall.Props.C01Conc
