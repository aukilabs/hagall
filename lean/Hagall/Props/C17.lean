/-
  C17 - each DISABLE_* feature flag suppresses exactly its own message class.
  For every flag set F (any list of strings: all 1024 subsets of the ten flags, and any unknown names)
  and every history, the run under F has the same states and outcomes as the run under no flag, and its
  deliveries are those of the flag-free run minus the message classes named by F.
-/
import Hagall.Proofs.Flags
import Hagall.Proofs.Frame
namespace Hagall.Props.C17
open Hagall

def Filtered {σ : Type} (F : List String) (r r0 : σ × List Delivery × Outcome) : Prop :=
  r = (r0.1, filterF F r0.2.1, r0.2.2)

def SFiltered (F : List String) (r r0 : Server × List Delivery × Outcome) : Prop :=
  r = (r0.1, filterF F r0.2.1, r0.2.2)

theorem Filtered.answers {σ : Type} {F : List String} {t : σ} {ds : List Delivery} {o : Outcome}
    (h : ∀ d ∈ ds, d.2.flagClass = none) : Filtered F (t, ds, o) (t, ds, o) := by
  simp only [Filtered, filterF_unflagged F h]

theorem sideEffect_unflagged {cfg : Cfg} {s : Session} {p : Part} {r : Req} {res : Res}
    (h : s.SideEffect cfg p r res) : ∀ d ∈ res.2.1, d.2.flagClass = none := by
  cases h
  case answered h => exact h.unflagged
  case action | assetAdd => exact List.forall_mem_cons.2 ⟨rfl, Session.forall_mem_bcast fun _ _ _ => rfl⟩
  all_goals exact fun _ h => nomatch h

/-- Every effect under the flags `F` is the effect under no flag with the deliveries filtered: the flags reach
    a handler only through its gate, the gate carries messages of its own class only, and answers are of none. -/
theorem effect_filtered {cfg : Cfg} {s : Session} {p : Part} {r : Req} {g : Cfg → Res}
    (h : s.Effect cfg p r g) (F : List String) : Filtered F (g (cfg.withFlags F)) (g (cfg.withFlags [])) := by
  cases h
  case side h => exact .answers (sideEffect_unflagged h)
  case pinged h | measured h => exact .answers h.unflagged
  case typeAdd | subscribe | unsubscribe => exact .answers (Answers.one (c := p.conn) rfl).unflagged
  all_goals
    simp only [Filtered, filterF_cons, filterF_append, filterF_nil, keepMsg, Out.flagClass, if_true]
    rw [gate_withFlags]
  -- the rewriting closes the goals; what is left is its side condition: the gate carries messages of its own class only
  case entityAdd | entityDelete | updatePose => exact Session.forall_mem_bcast fun _ _ _ => rfl
  case custom =>
    split
    · exact Session.forall_mem_bcastTo fun _ _ _ => rfl
    · exact Session.forall_mem_bcast fun _ _ _ => rfl
  case compAdd | compDelete =>
    split
    · exact fun _ h => nomatch h
    · exact Session.forall_mem_bcast fun _ _ _ => rfl
  case compUpdate => exact Session.forall_mem_bcastTo fun _ _ _ => rfl

theorem modules_unflagged (cfg : Cfg) (s : Session) (p : Part) (r : Req) :
    ∀ d ∈ (s.modules cfg p r).2.1, d.2.flagClass = none :=
  Session.modules_induction (Q := fun _ res => ∀ d ∈ res.2.1, d.2.flagClass = none) cfg p r
    (fun h1 h2 => List.forall_mem_append.2 ⟨h1, h2⟩) (fun _ _ h => sideEffect_unflagged h) s

theorem modules_flags (cfg : Cfg) (F : List String) (s : Session) (p : Part) (r : Req) :
    s.modules (cfg.withFlags F) p r = s.modules (cfg.withFlags []) p r := rfl

theorem handle_filtered (cfg : Cfg) (F : List String) (s : Session) (p : Part) (r : Req) (hint : Nat) :
    Filtered F (s.handle (cfg.withFlags F) p r hint) (s.handle (cfg.withFlags []) p r hint) := by
  have hc := effect_filtered (s.core_effect cfg p hint r) F
  unfold Filtered at hc ⊢
  unfold Session.handle
  rw [hc]
  rcases h0 : s.core (cfg.withFlags []) p r hint with ⟨s', ds, o⟩
  cases o
  · simp only [Res.andThen_ok, modules_flags cfg F]
    rw [filterF_append, filterF_unflagged F (modules_unflagged _ s' p r)]
  · rfl
  · rfl

theorem ite_not_swap {α : Type} (b : Bool) (x y : α) : (if (!b) = true then x else y) = if b = true then y else x := by
  cases b <;> rfl

theorem filterF_vikjaState (F : List String) (b : Prop) [Decidable b] (c : Nat) (a : List Action) :
    filterF F (if b then [(c, Out.vikjaState a)] else []) = if b then [(c, Out.vikjaState a)] else [] :=
  filterF_opt F b c _ rfl

theorem filterF_odalState (F : List String) (b : Prop) [Decidable b] (c : Nat) (a : List Asset) :
    filterF F (if b then [(c, Out.odalState a)] else []) = if b then [(c, Out.odalState a)] else [] :=
  filterF_opt F b c _ rfl

theorem sessionLeave_filtered (cfg : Cfg) (F : List String) (s : Session) (pid : Nat) :
    s.leave (cfg.withFlags F) pid = ((s.leave (cfg.withFlags []) pid).1, filterF F (s.leave (cfg.withFlags []) pid).2) := by
  refine Prod.ext rfl ?_
  simp only [Session.leave_deliveries, filterF_append, filterF_flatMap]
  rw [gate_withFlags cfg F (f := fLeave)]
  · congr 2
    funext eid
    exact gate_withFlags cfg F (Session.forall_mem_bcast fun _ _ _ => rfl)
  · intro d hd
    obtain ⟨q, _, rfl⟩ := List.mem_map.mp hd
    rfl

theorem serverLeave_filtered (cfg : Cfg) (F : List String) (srv : Server) (s : Session) (p : Part) :
    srv.leave (cfg.withFlags F) s p = ((srv.leave (cfg.withFlags []) s p).1, filterF F (srv.leave (cfg.withFlags []) s p).2) := by
  unfold Server.leave
  rw [sessionLeave_filtered]
  rcases s.leave (cfg.withFlags []) p.pid with ⟨s', ds⟩
  simp only []
  split <;> rfl

theorem joinDeliveries_filtered (cfg : Cfg) (F : List String) (s : Session) (p : Part) (rid ots : Nat) :
    joinDeliveries (cfg.withFlags F) s p rid ots = filterF F (joinDeliveries (cfg.withFlags []) s p rid ots) := by
  simp only [joinDeliveries, filterF_append, filterF_cons, keepMsg, Out.flagClass, if_true]
  rw [gate_withFlags cfg F (f := fSessionState) (fun _ h => List.mem_singleton.mp h ▸ rfl),
    gate_withFlags cfg F (f := fJoin) (Session.forall_mem_bcast fun _ _ _ => rfl), filterF_vikjaState, filterF_odalState]
  rfl

theorem joinFresh_filtered (cfg : Cfg) (F : List String) (srv : Server) (c rid ots : Nat) (t : JoinTarget) (hint : Nat) :
    SFiltered F (srv.joinFresh (cfg.withFlags F) c rid ots t hint) (srv.joinFresh (cfg.withFlags []) c rid ots t hint) := by
  unfold SFiltered Server.joinFresh
  cases t with
  | bogus => rfl
  | id n =>
    simp only []
    cases srv.findSession n with
    | none => rfl
    | some s => simp only [joinDeliveries_filtered cfg F]
  | new =>
    simp only [joinDeliveries_filtered cfg F]

theorem join_filtered (cfg : Cfg) (F : List String) (srv : Server) (c rid ots : Nat) (t : JoinTarget) (hint : Nat) :
    SFiltered F (srv.join (cfg.withFlags F) c rid ots t hint) (srv.join (cfg.withFlags []) c rid ots t hint) := by
  cases hl : srv.locate c with
  | none => simp only [Server.join, hl]; exact joinFresh_filtered cfg F srv c rid ots t hint
  | some sp =>
    -- the answers of a refused join are of no flag class; a switch is a departure and a fresh join
    cases ht : t == .id sp.1.id with
    | true =>
      simp only [Server.join, hl, ht, if_true]
      exact Filtered.answers (Server.join_refused_answers cfg c rid sp.1).unflagged
    | false =>
      cases hr : srv.resolves t with
      | false =>
        simp only [Server.join, hl, ht, hr, Bool.false_eq_true, if_false, Bool.not_false, if_true]
        exact Filtered.answers (Server.join_refused_answers cfg c rid sp.1).unflagged
      | true =>
        have := joinFresh_filtered cfg F (srv.leave (cfg.withFlags []) sp.1 sp.2).1 c rid ots t hint
        unfold SFiltered at this ⊢
        rw [Server.join_switch hl ht hr, Server.join_switch hl ht hr, serverLeave_filtered, this, filterF_append,
          filterF_append, filterF_abandoned]

theorem handleReq_filtered (cfg : Cfg) (F : List String) (srv : Server) (c : Nat) (r : Req) (hint : Nat) :
    SFiltered F (srv.handleReq (cfg.withFlags F) c r hint) (srv.handleReq (cfg.withFlags []) c r hint) := by
  unfold Server.handleReq
  split
  next => exact Filtered.answers (Answers.one (c := c) rfl).unflagged
  next => exact join_filtered cfg F srv c _ _ _ hint
  next rid rc hh sg =>
    -- the receipt queue does not see the flags, and its answers are of no flag class
    have e : srv.handleReceipt (cfg.withFlags F) c rid rc hh sg = srv.handleReceipt (cfg.withFlags []) c rid rc hh sg := rfl
    rw [e]
    exact Server.handleReceipt_cases (motive := fun res => SFiltered F res res) (cfg.withFlags []) srv c rid rc hh sg
      (fun _ => Filtered.answers (Answers.one (c := c) rfl).unflagged) (fun _ => Filtered.answers (Answers.one (c := c) rfl).unflagged)
  next =>
    cases srv.locate c with
    | none => exact Filtered.answers (notJoined_answers c r).unflagged
    | some sp =>
      have := handle_filtered cfg F sp.1 sp.2 r hint
      unfold Filtered at this
      simp only [SFiltered, this]

theorem disconnect_filtered (cfg : Cfg) (F : List String) (srv : Server) (c : Nat) :
    srv.disconnect (cfg.withFlags F) c = ((srv.disconnect (cfg.withFlags []) c).1, filterF F (srv.disconnect (cfg.withFlags []) c).2) := by
  unfold Server.disconnect
  cases srv.locate c with
  | none => rfl
  | some sp =>
    obtain ⟨s, p⟩ := sp
    simp only []
    rw [serverLeave_filtered]

/-- One step: same successor state, same outcome, deliveries filtered. -/
theorem C17_step (cfg : Cfg) (F : List String) (srv : Server) (e : Event) :
    SFiltered F (step (cfg.withFlags F) srv e) (step (cfg.withFlags []) srv e) := by
  unfold SFiltered
  cases e with
  | connect c => dsimp only [step]; split <;> rfl
  | recv c r =>
    dsimp only [step]
    split
    · rfl
    · split
      · rfl
      · rw [disconnect_filtered]
  | handle c pick hint =>
    dsimp only [step]
    split
    · rfl
    · split
      · rfl
      · rename_i k _ r k' _
        have := handleReq_filtered cfg F (srv.setConn k') c r hint
        unfold SFiltered at this
        rw [this]
        rcases (srv.setConn k').handleReq (cfg.withFlags []) c r hint with ⟨srv', ds, o⟩
        cases o
        · rfl
        · simp only [disconnect_filtered cfg F, filterF_append]
        · rfl
  | tick sid => dsimp only [step]; split <;> rfl
  | disconnect c => dsimp only [step]; rw [disconnect_filtered]
  | drain => rfl

/-- **C17.** For every flag set, every history and every starting state: the run under the flags reaches
    the same server state as the flag-free run, and delivers exactly the flag-free deliveries minus the
    messages whose class a set flag names.  Unknown names (not the class of any message) remove nothing. -/
theorem C17_filter (cfg : Cfg) (F : List String) (h : List Event) (srv : Server) :
    run (cfg.withFlags F) srv h = ((run (cfg.withFlags []) srv h).1, filterF F (run (cfg.withFlags []) srv h).2) := by
  induction h generalizing srv with
  | nil => rfl
  | cons e es ih =>
    simp only [run]
    have hs := C17_step cfg F srv e
    unfold SFiltered at hs
    rw [hs]
    rcases step (cfg.withFlags []) srv e with ⟨srv', ds, o⟩
    simp only []
    rw [ih srv']
    rcases run (cfg.withFlags []) srv' es with ⟨a, b⟩
    simp

/-- a flag name that is the class of no message suppresses nothing -/
theorem C17_unknown_flag (F : List String) (ds : List Delivery)
    (h : ∀ f ∈ F, f ∉ [fSessionState, fJoin, fLeave, fEntityAdd, fEntityDelete, fPose, fCustom, fCompAdd, fCompUpdate, fCompDelete]) :
    filterF F ds = ds := by
  -- `h` read the other way round and flag by flag: none of the ten is in `F`
  have h' : ∀ f ∈ _, f ∉ F := fun f hL hF => h f hF hL
  simp only [List.forall_mem_cons] at h'
  unfold filterF
  rw [List.filter_eq_self]
  intro d _
  unfold keepMsg
  cases hc : d.2.flagClass with
  | none => rfl
  | some f =>
    simp only [Bool.not_eq_true', List.contains_eq_mem, decide_eq_false_iff_not]
    unfold Out.flagClass at hc
    split at hc <;> cases hc <;> simp only [h', not_false_eq_true]

end Hagall.Props.C17
