/-
  C20 / C08, the part of "no well-formed sample panics the index" that is not floating point: when the cell array is a
  rectangle of `cols` x `rows` cells and the spans handed to the bookkeeping end inside it (which is what the clamps of
  `InsertQuad`'s append loops and of `mergeQuads` - `clampCell`, F27 - establish for the far cells), the append loops and
  the four edge loops of a merge index no cell that does not exist, and leave a rectangle of the same size; growing the
  grid leaves a rectangle of the grown size.  `C20_unclamped_far_cell_panics` is the kernel-checked run of the edge loops
  with a far cell one past the last column: the index-out-of-range of the code before the repair.
-/
import Hagall.Props.C20
namespace Hagall.Props.C20Total
open Hagall.Grid

def Rect (c : Cells) (cols rows : Nat) : Prop := c.length = rows ∧ ∀ row ∈ c, row.length = cols

theorem rect_get {c : Cells} {cols rows x y : Nat} (h : Rect c cols rows) (hx : x < cols) (hy : y < rows) :
    ∃ l, c.get x y = some l := by
  have hy' : y < c.length := h.1 ▸ hy
  have hx' : x < c[y].length := h.2 _ (List.getElem_mem hy') ▸ hx
  exact ⟨c[y][x], by rw [Cells.get, List.getElem?_eq_getElem hy', Option.bind_some, List.getElem?_eq_getElem hx']⟩

theorem rect_put {c c' : Cells} {cols rows x y : Nat} {l : List Nat} (h : Rect c cols rows) (hp : c.put x y l = some c') :
    Rect c' cols rows := by
  obtain ⟨row, hrow, hx, rfl⟩ := put_eq_some.mp hp
  refine ⟨by simp [h.1], fun r hr => ?_⟩
  rcases List.mem_or_eq_of_mem_set hr with hm | rfl
  · exact h.2 r hm
  · simp [h.2 row (List.mem_of_getElem? hrow)]

theorem foldlM_total {α β : Type} {P : β → Prop} {f : β → α → Option β} {l : List α} {b : β} (h : P b)
    (hf : ∀ a ∈ l, ∀ b, P b → ∃ b', f b a = some b' ∧ P b') : ∃ b', l.foldlM f b = some b' ∧ P b' := by
  induction l generalizing b with
  | nil => exact ⟨b, rfl, h⟩
  | cons a l ih =>
    obtain ⟨b1, h1, p1⟩ := hf a (List.mem_cons_self ..) b h
    rw [List.foldlM_cons, h1]
    exact ih p1 fun a' ha' => hf a' (List.mem_cons_of_mem _ ha')

theorem forCells_total {f : List Nat → List Nat} {cols rows : Nat} {cs : List (Nat × Nat)} {c : Cells} (h : Rect c cols rows)
    (hin : ∀ xy ∈ cs, xy.1 < cols ∧ xy.2 < rows) : ∃ c', c.forCells cs f = some c' ∧ Rect c' cols rows :=
  foldlM_total h fun xy hm _ h =>
    have ⟨l0, hg⟩ := rect_get h (hin xy hm).1 (hin xy hm).2
    have ⟨c1, hp⟩ := put_isSome_of_get hg (f l0)
    ⟨c1, Option.bind_eq_some_iff.mpr ⟨l0, hg, hp⟩, rect_put h hp⟩

/-- **Appending never leaves the array**: a span whose far cell is inside the grid (the clamp of the append loops). -/
theorem C20_register_never_panics {c : Cells} {cols rows id : Nat} {s : Span} (h : Rect c cols rows)
    (hx : s.maxX < cols) (hy : s.maxY < rows) : ∃ c', register c id s = some c' ∧ Rect c' cols rows :=
  forCells_total h fun _ hm =>
    have ⟨_, h2, _, h4⟩ := mem_span_cells.mp hm
    ⟨Nat.lt_of_le_of_lt h2 hx, Nat.lt_of_le_of_lt h4 hy⟩

/-- what the clamps establish of a span: its far cell exists, its near cell is at most one past the last (a footprint
    that begins on the far border) -/
def Inside (s : Span) (cols rows : Nat) : Prop := s.minX ≤ cols ∧ s.minY ≤ rows ∧ s.maxX < cols ∧ s.maxY < rows

theorem passes_total {eid cols rows : Nat} {ps : List (List (Nat × Nat) × Bool)} {c : Cells} (h : Rect c cols rows)
    (hin : ∀ p ∈ ps, ∀ xy ∈ p.1, xy.1 < cols ∧ xy.2 < rows) : ∃ c', passes eid c ps = some c' ∧ Rect c' cols rows :=
  foldlM_total h fun p hp _ h => forCells_total h (hin p hp)

/-- **A merge never leaves the array**: the four edge loops of `mergeQuads`, for the span before and after the move,
    both clamped. -/
theorem C20_reRegister_never_panics {c : Cells} {cols rows eid : Nat} {s0 s1 : Span} (h : Rect c cols rows)
    (h0 : Inside s0 cols rows) (h1 : Inside s1 cols rows) : ∃ c', reRegister c eid s0 s1 = some c' ∧ Rect c' cols rows := by
  obtain ⟨a0, b0, c0, d0⟩ := h0
  obtain ⟨a1, b1, c1, d1⟩ := h1
  rw [reRegister_eq_passes]
  apply passes_total h
  -- every strip ends at the larger of two near cells (excluded) or at a far cell
  have hx : max s0.minX s1.minX ≤ cols := Nat.max_le.mpr ⟨a0, a1⟩
  have hy : max s0.minY s1.minY ≤ rows := Nat.max_le.mpr ⟨b0, b1⟩
  have hX : max s0.maxX s1.maxX < cols := Nat.max_lt.mpr ⟨c0, c1⟩
  have hY : max s0.maxY s1.maxY < rows := Nat.max_lt.mpr ⟨d0, d1⟩
  have hX' : min s0.maxX s1.maxX < cols := Nat.lt_of_le_of_lt (Nat.min_le_left ..) c0
  simp only [List.forall_mem_cons, List.not_mem_nil, false_imp_iff, implies_true, and_true, Prod.forall, mem_grid2,
    mem_rangeIncl, mem_rangeExcl, mem_rangeDown]
  exact ⟨fun x y h => ⟨Nat.lt_of_lt_of_le h.2.2 hx, Nat.lt_of_le_of_lt h.1.2 hY⟩,
    fun x y h => ⟨Nat.lt_of_le_of_lt h.2.2 hX, Nat.lt_of_le_of_lt h.1.2 hY⟩,
    fun x y h => ⟨Nat.lt_of_le_of_lt h.2.2 hX', Nat.lt_of_lt_of_le h.1.2 hy⟩,
    fun x y h => ⟨Nat.lt_of_le_of_lt h.2.2 hX', Nat.lt_of_le_of_lt h.1.2 hY⟩⟩

theorem rect_replicate (cols rows : Nat) : Rect (List.replicate rows (List.replicate cols [])) cols rows :=
  ⟨List.length_replicate, fun _ h => (List.mem_replicate.mp h).2 ▸ List.length_replicate⟩

theorem rect_append {a b : Cells} {cols ra rb : Nat} (ha : Rect a cols ra) (hb : Rect b cols rb) :
    Rect (a ++ b) cols (ra + rb) :=
  ⟨by rw [List.length_append, ha.1, hb.1], fun row h => (List.mem_append.mp h).elim (ha.2 row) (hb.2 row)⟩

theorem rect_map_pad {c : Cells} {cols rows : Nat} (h : Rect c cols rows) (n : Nat) (front : Bool) :
    Rect (c.map fun row => if front then List.replicate n [] ++ row else row ++ List.replicate n []) (n + cols) rows := by
  refine ⟨by rw [List.length_map, h.1], fun row hm => ?_⟩
  obtain ⟨r, hr, rfl⟩ := List.mem_map.mp hm
  split <;> simp [h.2 r hr, Nat.add_comm]

/-- **Growing keeps a rectangle**, of the grown size. -/
theorem C20_grow_rect {c : Cells} {cols rows : Nat} (h : Rect c cols rows) (hr : 0 < rows) (xc yc : Nat) (left top : Bool) :
    Rect (grow c xc yc left top) (xc + cols) (rows + yc) := by
  -- the fresh rows get the width of the first row: there is one
  have hhead : (c.head?.map List.length).getD 0 = cols := by
    cases c with
    | nil => exact absurd h.1 (Nat.ne_of_lt hr)
    | cons r rs => simp [h.2 r (List.mem_cons_self ..)]
  rw [grow, hhead]
  cases top
  · exact rect_append (rect_map_pad h ..) (rect_replicate ..)
  · exact Nat.add_comm yc rows ▸ rect_append (rect_replicate ..) (rect_map_pad h ..)

/-- the premises are met by the grid of the corpus stream `F27`: 66 columns, a plane in the last two that loses a row at each end -/
example : ∃ c', reRegister (List.replicate 6 (List.replicate 66 [])) 1 ⟨64, 0, 65, 5⟩ ⟨64, 1, 65, 4⟩ = some c' ∧ Rect c' 66 6 :=
  C20_reRegister_never_panics (rect_replicate 66 6) (by simp [Inside]) (by simp [Inside])

/-- **Before the repair (F27).**  The far cell of the stored plane is computed as column 66 of 66 (the float32 subtraction
    rounded its far edge onto the border) and not clamped: the edge loops index a cell that does not exist. -/
theorem C20_unclamped_far_cell_panics :
    reRegister (List.replicate 6 (List.replicate 66 [])) 1 ⟨64, 0, 66, 5⟩ ⟨64, 1, 65, 4⟩ = none := by decide +kernel

end Hagall.Props.C20Total
