/-
  C03 under concurrency, the clause "not after it has left": for every interleaving of relays in a session with the
  departures of its participants (`Model/Relay.lean`, one transition per critical section), a connection is sent nothing
  of the session once it has been answered its join elsewhere.  `C03_old_relay_reaches_a_departed_member` is the
  kernel-checked interleaving of `BroadcastTo` before the repair F22.
-/
import Hagall.Model.Relay
namespace Hagall.Props.C03Conc
open Hagall.Relay

/-- nothing of the session after the answer from elsewhere -/
def Clean : List Item → Prop
  | [] => True
  | .relayed :: rest => Clean rest
  | .movedOn :: rest => .relayed ∉ rest ∧ Clean rest

theorem Clean_concat {l : List Item} (h : Clean l) (it : Item) (hn : it ≠ .movedOn → Item.movedOn ∉ l) : Clean (l ++ [it]) := by
  induction l with
  | nil => cases it <;> simp [Clean]
  | cons x xs ih =>
    cases x with
    | relayed => exact ih h fun e m => hn e (List.mem_cons_of_mem _ m)
    | movedOn =>
      cases it with
      | relayed => exact absurd (List.mem_cons_self ..) (hn nofun)
      | movedOn => exact ⟨by simp [h.1], ih h.2 fun e => absurd rfl e⟩

structure Inv (s : St) : Prop where
  gone : ∀ c, s.stage c ≠ 0 → c ∉ s.members
  unanswered : ∀ c, s.stage c ≠ 2 → Item.movedOn ∉ s.inbox c
  clean : ∀ c, Clean (s.inbox c)

/-- The three clauses speak of one connection at a time, and a critical section changes at most what they say of the
    connection that runs it (`relay`: of the members). -/
theorem Inv_step (s : St) (h : Inv s) (m : Move) (hm : m.current = true) : Inv (step s m) := by
  suffices key : ∀ x, ((step s m).stage x ≠ 0 → x ∉ (step s m).members) ∧
      ((step s m).stage x ≠ 2 → Item.movedOn ∉ (step s m).inbox x) ∧ Clean ((step s m).inbox x) from
    ⟨fun x => (key x).1, fun x => (key x).2.1, fun x => (key x).2.2⟩
  intro x
  have hx : _ ∧ _ ∧ _ := ⟨h.gone x, h.unanswered x, h.clean x⟩
  cases m with
  | lookup => cases hm
  | handOver => cases hm
  | relay =>
    dsimp only [step, serve]
    split
    · next hin =>
      -- a member has not left, so has not been answered
      have hu := h.unanswered x fun e => h.gone x (by rw [e]; decide) (by simpa using hin)
      exact ⟨h.gone x, fun _ => by simpa using hu, Clean_concat (h.clean x) _ fun _ => hu⟩
    · exact hx
  | remove c =>
    dsimp only [step]
    by_cases h0 : s.stage c = 0
    · rw [if_pos h0]
      by_cases e : x = c
      · subst e; exact ⟨fun _ hm => by simp at hm, fun _ => h.unanswered x (by rw [h0]; decide), h.clean x⟩
      · simp only [e, if_false]; exact ⟨fun hs hm => h.gone x hs (List.mem_filter.mp hm).1, hx.2⟩
    · rw [if_neg h0]; exact hx
  | answer c =>
    dsimp only [step]
    by_cases h1 : s.stage c = 1
    · rw [if_pos h1]
      by_cases e : x = c
      · subst e
        exact ⟨fun _ => h.gone x (by rw [h1]; decide), fun hs => by simp at hs, by simpa using Clean_concat (h.clean x) .movedOn fun e => absurd rfl e⟩
      · simpa only [e, if_false] using hx
    · rw [if_neg h1]; exact hx

/-- **Nothing from a session already left.**  Whatever the interleaving of relays, departures and answers, and however
    many participants the session starts with, no connection is sent a message of the session after the answer to its
    join elsewhere. -/
theorem C03_conc_no_relay_after_leaving (members : List Nat) (ms : List Move) (hms : ∀ m ∈ ms, m.current = true) (c : Nat) :
    Clean ((run { members } ms).inbox c) :=
  (List.foldlRecOn ms step (motive := Inv) (b := { members }) ⟨fun _ hc => absurd rfl hc, fun _ _ => List.not_mem_nil, fun _ => trivial⟩
    fun s hs m hm => Inv_step s hs m (hms m hm)).clean c

/-- the premises are met by a run in which a member leaves between two relays: it gets the first, not the second -/
example : let s := run { members := [1, 2] } [.relay, .remove 2, .answer 2, .relay]
    s.inbox 2 = [.relayed, .movedOn] ∧ s.inbox 1 = [.relayed, .relayed] := by decide

/-- **Before the repair (F22).**  The recipients are looked up, one of them leaves and is answered elsewhere, then the
    message is handed over: it arrives after the answer. -/
theorem C03_old_relay_reaches_a_departed_member :
    let s := run { members := [1, 2] } [.lookup, .remove 2, .answer 2, .handOver]
    s.inbox 2 = [.movedOn, .relayed] ∧ ¬ Clean (s.inbox 2) := by
  intro s
  have h : s.inbox 2 = [.movedOn, .relayed] := by decide
  exact ⟨h, by rw [h]; simp [Clean]⟩

end Hagall.Props.C03Conc
