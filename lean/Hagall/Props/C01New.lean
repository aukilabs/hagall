import Hagall.Model.Newcomer
/-
  C01 under concurrency, the clause "a newcomer joining at that moment is handed exactly that state", with the others
  writing while it joins (F32): whatever the interleaving of any number of writers (apply, then relay) with the
  newcomer's two critical sections (take the place; read and be sent the state under the participants write lock), once
  everybody is done the newcomer's view holds exactly the changes the session holds.  Before the repair the state was
  read in one critical section and sent in another: `C01_old_split_state_loses_a_change` is the interleaving.
  That the state is read and sent inside `Session.Exclusive`, and that a relay holds the participants read lock to the
  end, is `Gen/AbsOrder.newcomer_state_is_one_critical_section` on the regenerated facts.
-/
namespace Hagall.Props.C01New
open Hagall.Newcomer

theorem view_append (l : List Item) (it : Item) : view (l ++ [it]) = apply (view l) it := by
  simp [view, List.foldl_append]

theorem mem_apply_relay (v : List Nat) (c x : Nat) : x ∈ apply v (.relay c) ↔ x ∈ v ∨ x = c :=
  List.mem_insert_iff.trans or_comm

/-- the session holds exactly the changes of the writers past W1; once the newcomer has been handed the state, its view
    holds nothing else, and every change it lacks is about to be relayed -/
structure Inv (s : St) : Prop where
  applied : ∀ x, x ∈ s.applied ↔ 1 ≤ s.w x
  stage : s.n ≤ 3 ∧ s.n ≠ 2
  sound : s.n = 3 → ∀ x, x ∈ view s.inbox → x ∈ s.applied
  complete : s.n = 3 → ∀ x, x ∈ s.applied → x ∈ view s.inbox ∨ s.w x = 1

theorem Inv_init : Inv {} := by
  constructor <;> simp

theorem Inv_step (s : St) (m : Move) (h : Inv s) : Inv (step false s m) := by
  obtain ⟨ha, hst, hs, hc⟩ := h
  cases m with
  | writer c =>
    dsimp only [step]
    split
    · -- W1: the change is in the session and about to be relayed
      refine ⟨fun x => ?_, hst, fun hn x hx => List.mem_cons_of_mem _ (hs hn x hx), fun hn x hx => ?_⟩
      · by_cases e : x = c <;> simp [St.setW, e, ha x]
      · by_cases e : x = c
        · simp [St.setW, e]
        · simpa [St.setW, e] using hc hn x ((List.mem_cons.mp hx).resolve_left e)
    · -- W2: a newcomer that has the state is a member, so it is sent the relay
      next h1 =>
      have hin : s.n = 3 → view (if s.n ≥ 1 then s.inbox ++ [.relay c] else s.inbox) = apply (view s.inbox) (.relay c) :=
        fun hn => by rw [if_pos (by omega), view_append]
      refine ⟨fun x => ?_, hst, fun hn x hx => ?_, fun hn x hx => ?_⟩
      · by_cases e : x = c
        · subst e; simp [St.setW, ha x, h1]
        · simp [St.setW, e, ha x]
      · exact ((mem_apply_relay ..).mp (hin hn ▸ hx)).elim (hs hn x) fun e => (ha x).mpr (by subst e; omega)
      · simp only [St.setW]
        rw [hin hn, mem_apply_relay]
        by_cases e : x = c
        · exact .inl (.inr e)
        · simpa [e] using hc hn x hx
    · exact ⟨ha, hst, hs, hc⟩
  | newcomer =>
    dsimp only [step]
    split
    · exact ⟨ha, (by decide : 1 ≤ 3 ∧ 1 ≠ 2), nofun, nofun⟩
    · -- N2: the view is the state
      have hv : ∀ x, x ∈ view (s.inbox ++ [.state s.applied]) ↔ x ∈ s.applied := fun x => by rw [view_append]; rfl
      exact ⟨ha, (by decide : 3 ≤ 3 ∧ 3 ≠ 2), fun _ x => (hv x).mp, fun _ x hx => .inl ((hv x).mpr hx)⟩
    · next h2 => exact absurd h2 hst.2
    · exact ⟨ha, hst, hs, hc⟩

/-- **A newcomer ends up with exactly the session's state, whatever the others wrote while it joined.**  For every
    interleaving: once the newcomer has been handed the state and no writer is between applying and relaying, its view
    holds exactly the changes applied. -/
theorem C01_conc_newcomer_gets_state_then_relays (ms : List Move)
    (hn : (run false {} ms).n = 3) (hw : ∀ c, (run false {} ms).w c ≠ 1) :
    ∀ x, x ∈ view (run false {} ms).inbox ↔ x ∈ (run false {} ms).applied := by
  have h : Inv (run false {} ms) := List.foldlRecOn ms _ Inv_init fun s hs m _ => Inv_step s m hs
  exact fun x => ⟨h.sound hn x, fun hx => (h.complete hn x hx).resolve_right (hw x)⟩

-- the premises are met: a change before the newcomer, one applied before and relayed after its state, one after
example : let s := run false {} [.writer 1, .writer 1, .writer 2, .newcomer, .newcomer, .writer 2, .writer 3, .writer 3]
    s.n = 3 ∧ s.w 1 = 2 ∧ s.w 2 = 2 ∧ s.w 3 = 2 ∧ s.applied = [3, 2, 1] ∧ view s.inbox = [3, 2, 1] := by decide +kernel

/-- **Before the repair (F32).**  The newcomer is a member and its state has been read; a writer applies a change and
    relays it - the newcomer is sent the relay -; then the state read earlier is sent and replaces the view: everybody is
    done and the newcomer lacks the change. -/
theorem C01_old_split_state_loses_a_change :
    let s := run true {} [.newcomer, .newcomer, .writer 7, .writer 7, .newcomer]
    s.n = 3 ∧ s.w 7 = 2 ∧ s.applied = [7] ∧ view s.inbox = [] := by decide

end Hagall.Props.C01New
