/-
  C10 - server-issued ids never collide and are never reissued within a session (sequential part).
-/
import Hagall.Proofs.Invariant
import Hagall.Proofs.DataInv
namespace Hagall.Props.C10
open Hagall

/-- For every history, at every moment: no two registered sessions share an id or a UUID; within every
    session participant ids, entity ids, component type ids, component type names and asset instance ids
    are pairwise distinct, and all of them lie at or below the session's counters (so the next id issued,
    counter + 1, is different from every id in use). -/
theorem C10_no_collision (cfg : Cfg) (h : List Event) :
    let srv := (run cfg {} h).1
    (srv.sessions.map (·.id)).Nodup ∧ (srv.sessions.map (·.uuid)).Nodup ∧
    ∀ s ∈ srv.sessions,
      (s.parts.map (·.pid)).Nodup ∧ (∀ p ∈ s.parts, p.pid ≤ s.pidCur) ∧
      (s.ents.map (·.id)).Nodup ∧ (∀ e ∈ s.ents, e.id ≤ s.eidCur) ∧
      (s.types.map (·.1)).Nodup ∧ (s.types.map (·.2)).Nodup ∧ (∀ t ∈ s.types, t.1 ≤ s.tidCur) ∧
      (s.assets.map (·.id)).Nodup ∧ (∀ a ∈ s.assets, a.id ≤ s.assetCur) := by
  have hw := run_WF cfg h Server.WF_init
  refine ⟨hw.ids_nodup, hw.uuid_nodup, ?_⟩
  intro s hs
  have hm := hw.members s hs
  have hd := run_DataOK cfg h s hs
  exact ⟨hm.pids_nodup, fun p hp => (hm.pid_pos p hp).2, hd.eids_nodup, fun e he => (hd.eid_range e he).2,
         hd.tids_nodup, hd.names_nodup, fun t ht => (hd.tid_range t ht).2, hd.asset_ids, fun a ha => (hd.asset_range a ha).2⟩

/-- Component type ids and names map one-to-one: a name resolves to an id exactly when that id resolves
    to the name. -/
theorem C10_types_bijective (s : Session) (h : s.DataOK) (name : String) (t : Nat) :
    s.typeId name = some t ↔ s.typeName t = some name := by
  -- with unique names and unique ids, both lookups say that the pair is in the table
  simp only [Session.typeId, Session.typeName, Option.map_eq_some_iff, find_eq_some_of_nodup_map h.names_nodup,
    find_eq_some_of_nodup_map h.tids_nodup, and_assoc]
  exact exists_congr fun _ => and_congr_right fun _ => and_comm

def Grows (s s' : Session) : Prop :=
  s'.pidCur = s.pidCur ∧ s.eidCur ≤ s'.eidCur ∧ s.tidCur ≤ s'.tidCur ∧ s.assetCur ≤ s'.assetCur

theorem Grows_trans {a b c : Session} (h1 : Grows a b) (h2 : Grows b c) : Grows a c :=
  ⟨h2.1.trans h1.1, Nat.le_trans h1.2.1 h2.2.1, Nat.le_trans h1.2.2.1 h2.2.2.1, Nat.le_trans h1.2.2.2 h2.2.2.2⟩

/-- No request ever moves a counter backwards, and none but a join issues a participant id: ids are
    issued as counter + 1 (`Session.entityAdd`, `Session.addPart`, `Session.typeAdd`, `Session.odal`) and
    a counter that never decreases never issues the same id twice - not even after its holder is gone,
    because nothing releases an id. -/
theorem C10_counters_monotone (cfg : Cfg) (s : Session) (p : Part) (r : Req) (hint : Nat) :
    Grows s (s.handle cfg p r hint).1 := by
  refine Session.handle_rel Grows Grows_trans cfg p r hint (fun t g h => ?_) s
  cases h
  case side h =>
    cases h
    case assetAdd => exact ⟨rfl, Nat.le_refl _, Nat.le_refl _, Nat.le_succ _⟩
    all_goals exact ⟨rfl, Nat.le_refl _, Nat.le_refl _, Nat.le_refl _⟩
  case entityAdd => exact ⟨rfl, Nat.le_succ _, Nat.le_refl _, Nat.le_refl _⟩
  case typeAdd => exact ⟨rfl, Nat.le_refl _, Nat.le_succ _, Nat.le_refl _⟩
  all_goals exact ⟨rfl, Nat.le_refl _, Nat.le_refl _, Nat.le_refl _⟩

/-- a departure releases no id: every counter stays where it was -/
theorem C10_leave_releases_nothing (cfg : Cfg) (s : Session) (pid : Nat) :
    (s.leave cfg pid).1.pidCur = s.pidCur ∧ (s.leave cfg pid).1.eidCur = s.eidCur ∧
    (s.leave cfg pid).1.tidCur = s.tidCur ∧ (s.leave cfg pid).1.assetCur = s.assetCur :=
  ⟨rfl, rfl, rfl, rfl⟩

/-- a join issues the next participant id, different from every id in the session and from every id the
    counter has passed -/
theorem C10_join_fresh_pid (s : Session) (c : Nat) (h : ∀ p ∈ s.parts, p.pid ≤ s.pidCur) :
    (s.addPart c).2.pid = s.pidCur + 1 ∧ (s.addPart c).1.pidCur = s.pidCur + 1 ∧
    ∀ p ∈ s.parts, p.pid ≠ (s.addPart c).2.pid :=
  ⟨rfl, rfl, fun p hp => Nat.ne_of_lt (Nat.lt_succ_of_le (h p hp))⟩

/-- the session-id generator: an id handed out is never one that a registered session holds -/
theorem C10_session_id_fresh (srv : Server) (hw : srv.WF) (hint : Nat) :
    ∀ s ∈ srv.sessions, s.id ≠ (srv.ids.new hint).1 := fun s hs =>
  (IdGen.new_fresh (hint := hint) rfl hw.pool_range).2.2.2 s.id (hw.id_range s hs).2.1 (hw.id_range s hs).2.2

/-! ### the id source by itself, under any use

  `New` and `Reuse` each run under the generator's own mutex (lock facts `locks_SequentialIDGenerator_*`), so whatever
  the number of connections calling them at once, what happens is some sequence of the two operations: "all
  interleavings of concurrent allocations" are the lists below. -/

inductive IdOp where
  | new (hint : Nat)        -- any caller allocates (`hint`: which pooled id Go's map iteration yields)
  | release (i : Nat)       -- a holder gives `i` back (ignored when nobody holds `i`)
deriving Repr, DecidableEq

structure IdSrc where
  gen : IdGen := {}
  held : List Nat := []     -- ids issued and not given back

def IdSrc.step (s : IdSrc) : IdOp → IdSrc
  | .new hint => { gen := (s.gen.new hint).2, held := (s.gen.new hint).1 :: s.held }
  -- the guard is an assumption on the callers (only a holder gives an id back): `Reuse` itself checks nothing
  | .release i => if s.held.contains i then { gen := s.gen.reuse i, held := s.held.filter (· != i) } else s

/-- `Server.WF`'s clauses `id_range` and `pool_range`, for ids held by anyone -/
structure IdSrc.Inv (s : IdSrc) : Prop where
  nodup : s.held.Nodup
  held : ∀ i ∈ s.held, 0 < i ∧ i ≤ s.gen.cur ∧ i ∉ s.gen.pool
  pool : ∀ i ∈ s.gen.pool, 0 < i ∧ i ≤ s.gen.cur

theorem IdSrc.Inv.new_not_held {s : IdSrc} (h : s.Inv) (hint : Nat) : (s.gen.new hint).1 ∉ s.held := fun hm =>
  (IdGen.new_fresh (hint := hint) rfl h.pool).2.2.2 _ (h.held _ hm).2.1 (h.held _ hm).2.2 rfl

theorem IdSrc.Inv_step (s : IdSrc) (h : s.Inv) (op : IdOp) : (s.step op).Inv := by
  cases op with
  | new hint =>
    obtain ⟨hid, hcur, hsub, _⟩ := IdGen.new_fresh (hint := hint) rfl h.pool
    exact {
      nodup := List.nodup_cons.mpr ⟨h.new_not_held hint, h.nodup⟩
      held := List.forall_mem_cons.mpr ⟨hid, fun i hi => IdGen.in_use_mono hcur hsub (h.held i hi)⟩
      pool := IdGen.pool_range_mono hcur hsub h.pool }
  | release i =>
    simp only [IdSrc.step]
    split
    next hc =>
      have hi := h.held i (by simpa using hc)
      refine ⟨h.nodup.sublist List.filter_sublist, fun j hj => ?_, IdGen.reuse_pool_range h.pool ⟨hi.1, hi.2.1⟩⟩
      have ⟨hj, hne⟩ := List.mem_filter.mp hj
      exact IdGen.reuse_in_use (h.held j hj) (bne_iff_ne.mp hne)
    · exact h

/-- **Ids never collide, however many callers allocate and release at once.** After any sequence of allocations and
    releases on one id source, the ids currently held are pairwise distinct, and an id handed out next is none of
    them. -/
theorem C10_idsource_unique (ops : List IdOp) :
    let s := ops.foldl IdSrc.step {}
    s.held.Nodup ∧ ∀ hint, (s.gen.new hint).1 ∉ s.held := by
  have hinv : (ops.foldl IdSrc.step {}).Inv :=
    List.foldlRecOn ops _ ⟨by simp, by simp, by simp⟩ fun s hs op _ => IdSrc.Inv_step s hs op
  exact ⟨hinv.nodup, hinv.new_not_held⟩

/-- an id is handed out again only after it was given back -/
example : let s := [IdOp.new 0, .new 0, .release 1, .new 1].foldl IdSrc.step {}
    s.held = [1, 2] := by decide

end Hagall.Props.C10
