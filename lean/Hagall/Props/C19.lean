/-
  C19 - a receipt is forwarded to the credit service iff well-formed, once and unchanged (queue part).
  The bounded queue between the connections and the forwarder is modelled (`Server.receipts`, capacity
  `cfg.rcap`); Keccak-256 / signature recovery and the HTTP forwarding are outside the model and are
  exercised on the real `receipt.ReceiptHandler` by the receipts harness (go/cmd/receipts).
-/
import Hagall.Proofs.Invariant
namespace Hagall.Props.C19
open Hagall

variable (cfg : Cfg) (srv : Server) (c rid : Nat) (receipt hash sig : Bytes)

/-- The submitter always gets exactly one answer, the step is total (never blocks) and never ends the connection - a
    refusal that did would be closed over before it is written (finding F29):
    BAD_REQUEST iff a field is empty, otherwise TOO_BUSY iff the queue is full, otherwise accepted. -/
theorem C19_answer :
    (receipt.length = 0 ∨ hash.length = 0 ∨ sig.length = 0 →
        srv.handleReceipt cfg c rid receipt hash sig = (srv, [(c, .error rid ecBadRequest)], .ok)) ∧
    (¬(receipt.length = 0 ∨ hash.length = 0 ∨ sig.length = 0) → srv.receipts.length ≥ cfg.rcap →
        srv.handleReceipt cfg c rid receipt hash sig = (srv, [(c, .error rid ecTooBusy)], .ok)) ∧
    (¬(receipt.length = 0 ∨ hash.length = 0 ∨ sig.length = 0) → srv.receipts.length < cfg.rcap →
        srv.handleReceipt cfg c rid receipt hash sig =
          ({ srv with receipts := srv.receipts ++ [⟨receipt, hash, sig⟩] }, [(c, .receiptResp rid)], .ok)) := by
  simp only [Server.handleReceipt, Bool.or_eq_true, beq_iff_eq, or_assoc]
  exact ⟨fun h => if_pos h, fun h hfull => by rw [if_neg h, if_neg (Nat.not_lt.mpr hfull)],
    fun h hroom => by rw [if_neg h, if_pos hroom]⟩

/-- The queue never holds more than its capacity (so a submission never has to wait for room). -/
theorem C19_bounded (h : srv.receipts.length ≤ cfg.rcap) :
    (srv.handleReceipt cfg c rid receipt hash sig).1.receipts.length ≤ cfg.rcap :=
  Server.handleReceipt_cases (motive := fun res => res.1.receipts.length ≤ cfg.rcap) cfg srv c rid receipt hash sig
    (fun _ => h) fun hq => by rw [List.length_append]; exact hq

def pipeline (s : Server) : List Receipt := s.forwarded ++ s.receipts

/-- what `C19_conservation` says of an event, said of any step from `srv` -/
def Conserved (srv : Server) (res : SRes) : Prop :=
  pipeline res.1 = pipeline srv ∨
  ∃ rc h sg, pipeline res.1 = pipeline srv ++ [⟨rc, h, sg⟩] ∧ ∃ cc rr, (cc, Out.receiptResp rr) ∈ res.2.1

theorem Conserved.mono {srv s1 s2 : Server} {ds ds' : List Delivery} {o o' : Outcome} (h : Conserved srv (s1, ds, o))
    (hp : pipeline s2 = pipeline s1) (hd : ∀ d ∈ ds, d ∈ ds') : Conserved srv (s2, ds', o') := by
  refine h.imp (hp.trans ·) ?_
  rintro ⟨rc, hh, sg, e, cc, rr, hm⟩
  exact ⟨rc, hh, sg, hp.trans e, cc, rr, hd _ hm⟩

theorem handleReq_pipeline (r : Req) (hint : Nat) : Conserved srv (srv.handleReq cfg c r hint) :=
  Server.handleReq_cases (motive := Conserved srv) cfg srv c r hint (fun _ _ => .inl rfl)
    (fun rid ots t _ => .inl (by have := srv.join_transport cfg c rid ots t hint; simp only [pipeline, this.2.2.1, this.2.2.2]))
    (fun _ _ _ _ _ _ => .inl rfl)
    (fun rid rc h sg _ _ => .inr ⟨rc, h, sg, (List.append_assoc ..).symm, c, rid, List.mem_singleton.mpr rfl⟩)
    (fun _ => .inl rfl) (fun _ _ _ => .inl rfl)

theorem disconnect_pipeline (k : Nat) : pipeline (srv.disconnect cfg k).1 = pipeline srv := by
  have := srv.disconnect_transport cfg k
  rw [pipeline, this.2.2.1, this.2.2.2]
  rfl

/-- **Conservation.** Over any single event, the receipts forwarded-or-queued are exactly those of before
    plus - when the event is an accepted submission - that submission, unchanged and once: nothing is ever
    dropped, duplicated, reordered or altered on its way from a connection to the forwarder. -/
theorem C19_conservation (e : Event) :
    pipeline (step cfg srv e).1 = pipeline srv ∨
    ∃ rc h sg, pipeline (step cfg srv e).1 = pipeline srv ++ [⟨rc, h, sg⟩] ∧
      ∃ cc rr, (cc, Out.receiptResp rr) ∈ (step cfg srv e).2.1 := by
  refine step_cases (motive := Conserved srv) cfg srv e (fun _ _ => .inl rfl) (.inl (List.append_nil _))
    (fun c _ _ _ => .inl (disconnect_pipeline cfg _ c)) (fun c _ hint _ r k' srv' ds o _ _ _ hh => ?_)
  have h := handleReq_pipeline cfg (srv.setConn k') c r hint
  rw [hh] at h
  cases o
  · exact h
  · exact h.mono (disconnect_pipeline cfg _ c) fun _ => List.mem_append_left _
  · exact h.mono rfl fun _ hd => hd

/-- The forwarder takes the queued receipts in order and unchanged, and each at most once: after a
    drain they are forwarded and no longer queued. -/
theorem C19_drain :
    (step cfg srv .drain).1.forwarded = srv.forwarded ++ srv.receipts ∧ (step cfg srv .drain).1.receipts = [] :=
  ⟨rfl, rfl⟩

end Hagall.Props.C19
