/-
  C20 - the geometric primitives, over exact arithmetic.

  `Model/Vec.lean` defines dot, cross, the plane normal and the overlap test once, for any scalar type.  At
  `Float32` they are the executable model that is compared bit for bit with `modules/dagaz/math.go`; at
  `Int` (exact arithmetic: every float32 is an integer multiple of 2^-149) they satisfy the laws below for
  all vectors.  How far the float32 results are from the exact ones is measured by the Go harness
  (`grid -mode prim`), not proved.
-/
import Hagall.Model.Vec
namespace Hagall.Grid

abbrev VZ := Vec3 Int

theorem C20_dot_comm (a b : VZ) : a.dot b = b.dot a := by
  simp only [Vec3.dot, Int.mul_comm]

theorem C20_cross_perp_left (a b : VZ) : (a.cross b).dot a = 0 := by
  simp only [Vec3.dot, Vec3.cross]; grind

theorem C20_cross_perp_right (a b : VZ) : (a.cross b).dot b = 0 := by
  simp only [Vec3.dot, Vec3.cross]; grind

theorem C20_cross_anticomm (a b : VZ) : a.cross b = (b.cross a).mul (-1) := by
  simp [Vec3.cross, Vec3.mul, Int.mul_comm, Int.neg_sub]

/-- the normal of a plane depends on its extents only, and for a horizontal plane (no vertical extent) it is
    vertical, pointing up exactly when both half extents have the same sign -/
theorem C20_normal (c e : VZ) : rawNormal c e = ⟨-(e.z * e.y), e.z * e.x, -(e.y * e.x)⟩ := by
  simp [rawNormal, Vec3.cross, Vec3.add, Vec3.sub, Int.add_comm c.x, Int.add_comm c.y, Int.add_comm c.z]

theorem C20_normal_horizontal (c e : VZ) (h : e.y = 0) : rawNormal c e = ⟨0, e.z * e.x, 0⟩ := by
  rw [C20_normal, h]; simp

/-- the overlap test is exactly "the open footprints intersect" -/
theorem C20_overlap_iff (ca ea cb eb : VZ) :
    overlapXZ ca ea cb eb = true ↔
      (ca.x - ea.x < cb.x + eb.x ∧ cb.x - eb.x < ca.x + ea.x) ∧ (ca.z - ea.z < cb.z + eb.z ∧ cb.z - eb.z < ca.z + ea.z) := by
  simp only [overlapXZ, Bool.and_eq_true, Bool.not_eq_true', decide_eq_false_iff_not, Int.not_le]
  exact and_assoc

theorem C20_overlap_symm (ca ea cb eb : VZ) : overlapXZ ca ea cb eb = overlapXZ cb eb ca ea := by
  rw [Bool.eq_iff_iff, C20_overlap_iff, C20_overlap_iff]
  constructor <;> (rintro ⟨⟨h1, h2⟩, h3, h4⟩; exact ⟨⟨h2, h1⟩, h4, h3⟩)

/-- a plane with positive extents overlaps itself, and planes far apart do not overlap -/
theorem C20_overlap_self (c e : VZ) (hx : 0 < e.x) (hz : 0 < e.z) : overlapXZ c e c e = true := by
  rw [C20_overlap_iff]
  have hX := Int.lt_trans (Int.sub_lt_self c.x hx) (Int.lt_add_of_pos_right c.x hx)
  have hZ := Int.lt_trans (Int.sub_lt_self c.z hz) (Int.lt_add_of_pos_right c.z hz)
  exact ⟨⟨hX, hX⟩, hZ, hZ⟩

theorem C20_overlap_apart (ca ea cb eb : VZ) (h : ca.x + ea.x ≤ cb.x - eb.x) : overlapXZ ca ea cb eb = false := by
  rw [Bool.eq_false_iff, Ne, C20_overlap_iff]
  exact fun h' => Int.lt_irrefl _ (Int.lt_of_le_of_lt h h'.1.2)

end Hagall.Grid
