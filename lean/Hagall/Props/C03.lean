/-
  C03 - sessions are isolated.

  * `C03_handle_within`: whatever a joined connection sends, everything delivered goes to that connection
    or to participants of its own session, and the outcome is computed from that session alone
    (`Session.handle` does not see the rest of the server: `C03_local`).
  * `C03_not_joined`: a connection that is in no session changes nothing and reaches nobody but itself,
    except by joining.
  * `C03_request_frame`: a request of a connection that is not in a session and does not ask to join it by its id
    leaves that session registered exactly as it was and reaches none of its participants.
  * `C03_event_frame`: for every event of every reachable server state, a session that the acting
    connection is not in before the event and has not asked to join stays in the registry exactly as it was
    - same participants, entities, components, module state, counters - and none of its participants
    receives anything.  Ids that coincide across sessions do not matter: every lookup starts from the
    actor's own session record.
  * `C03_history_frame`: hence over any history, a session all of whose events come from outsiders that
    never name it is unchanged and silent.

  Frame plus locality are the unwinding conditions of noninterference.  The end-to-end form ("the members'
  message streams are the same with all other sessions' traffic removed") is `C03_noninterference`
  (Props/C03Trace.lean); it is also measured on the real server by re-running histories with the outsiders' events
  removed (bin/extras.py, noninterference).
-/
import Hagall.Proofs.DataInv
import Hagall.Proofs.Invariant
namespace Hagall

def Tgt (L : List Nat) (ds : List Delivery) : Prop := ∀ d ∈ ds, d.1 ∈ L

theorem Tgt.nil {L : List Nat} : Tgt L [] := fun _ h => nomatch h
theorem Tgt.cons {L : List Nat} {c : Nat} {m : Out} {ds : List Delivery} (hc : c ∈ L) (h : Tgt L ds) : Tgt L ((c, m) :: ds) :=
  List.forall_mem_cons.2 ⟨hc, h⟩
theorem Tgt.append {L : List Nat} {a b : List Delivery} (ha : Tgt L a) (hb : Tgt L b) : Tgt L (a ++ b) :=
  List.forall_mem_append.2 ⟨ha, hb⟩
theorem Tgt.ite {L : List Nat} {b : Prop} [Decidable b] {a a' : List Delivery} (h : Tgt L a) (h' : Tgt L a') :
    Tgt L (if b then a else a') :=
  iteInduction (fun _ => h) fun _ => h'
theorem Tgt.gate {L : List Nat} {cfg : Cfg} {f : String} {ds : List Delivery} (h : Tgt L ds) : Tgt L (gate cfg f ds) :=
  forall_mem_gate h
theorem Tgt.bcast {c a : Nat} {s : Session} {m : Out} : Tgt (c :: s.parts.map (·.conn)) (s.bcast a m) :=
  Session.forall_mem_bcast fun _ hq _ => List.mem_cons_of_mem _ (List.mem_map_of_mem hq)
theorem Tgt.bcastTo {c a : Nat} {s : Session} {m : Out} {pids : List Nat} : Tgt (c :: s.parts.map (·.conn)) (s.bcastTo a m pids) :=
  Session.forall_mem_bcastTo fun _ hq _ => List.mem_cons_of_mem _ (List.mem_map_of_mem hq)
theorem Tgt.mono {L L' : List Nat} {ds : List Delivery} (h : Tgt L ds) (hs : ∀ x ∈ L, x ∈ L') : Tgt L' ds :=
  fun d hd => hs _ (h d hd)

theorem Answers.tgt {L : List Nat} {c : Nat} {ds : List Delivery} (h : Answers c ds) (hc : c ∈ L) : Tgt L ds :=
  fun d hd => (h d hd).1 ▸ hc

theorem Tgt.abandoned {L : List Nat} (s : Session) (p : Part) (hc : p.conn ∈ L) : Tgt L (s.abandoned p) :=
  (Answers.abandoned s p).tgt hc

theorem Session.SideEffect.tgt {cfg : Cfg} {s : Session} {p : Part} {r : Req} {res : Res} (h : s.SideEffect cfg p r res) :
    Tgt (p.conn :: s.parts.map (·.conn)) res.2.1 := by
  cases h
  case answered h => exact h.tgt (List.mem_cons_self ..)
  case action | assetAdd => exact .cons (List.mem_cons_self ..) .bcast
  all_goals exact .nil

theorem Session.Effect.tgt {cfg : Cfg} {s : Session} {p : Part} {r : Req} {g : Cfg → Res} (h : s.Effect cfg p r g) :
    Tgt (p.conn :: s.parts.map (·.conn)) (g cfg).2.1 := by
  have self : p.conn ∈ p.conn :: s.parts.map (·.conn) := List.mem_cons_self ..
  cases h
  case side h => exact h.tgt
  case pinged h | measured h => exact h.tgt self
  case entityAdd | entityDelete => exact .cons self (.gate .bcast)
  case updatePose => exact .gate .bcast
  case custom => exact .gate (.ite .bcastTo .bcast)
  case compAdd => exact .cons self (.gate (.ite .nil .bcast))
  case compDelete => exact .append (.gate (.ite .nil .bcast)) (.cons self .nil)
  case compUpdate => exact .gate .bcastTo
  case typeAdd | subscribe | unsubscribe => exact .cons self .nil

/-- **C03, inside the session.** Whatever a participant sends, the session keeps its member list and everything
    delivered is addressed to the sender or to a member of the sender's session. -/
theorem C03_handle_within (cfg : Cfg) (s : Session) (p : Part) (r : Req) (hint : Nat) :
    (s.handle cfg p r hint).1.parts = s.parts ∧ Tgt (p.conn :: s.parts.map (·.conn)) (s.handle cfg p r hint).2.1 := by
  refine Session.handle_induction (Q := fun t res => res.1.parts = t.parts ∧ Tgt (p.conn :: t.parts.map fun q : Part => q.conn) res.2.1)
    cfg p r hint (fun h1 h2 => ⟨h2.1.trans h1.1, Tgt.append h1.2 (h1.1 ▸ h2.2)⟩)
    (fun t g h => ⟨h.sameMembers.2.2.2, h.tgt⟩) s

theorem leave_tgt_rest (cfg : Cfg) (y : Session) (pid : Nat) :
    Tgt ((y.leave cfg pid).1.parts.map (·.conn)) (y.leave cfg pid).2 := by
  have rest : ∀ m : Out, Tgt ((y.leave cfg pid).1.parts.map (·.conn)) (y.bcast pid m) := fun m =>
    Session.forall_mem_bcast fun r hr hne => List.mem_map_of_mem (Session.mem_leave_parts.mpr ⟨hr, hne⟩)
  rw [Session.leave_deliveries]
  refine Tgt.append (fun d hd => ?_) (Tgt.gate (rest _))
  obtain ⟨eid, _, hd⟩ := List.mem_flatMap.mp hd
  exact Tgt.gate (rest _) d hd

theorem leave_tgt (cfg : Cfg) (s : Session) (pid : Nat) : Tgt (s.parts.map (·.conn)) (s.leave cfg pid).2 :=
  (leave_tgt_rest cfg s pid).mono fun _ ha =>
    have ⟨_, hq, e⟩ := List.mem_map.mp ha
    e ▸ List.mem_map_of_mem (Session.mem_leave_parts.mp hq).1

/-- `x` is left exactly as it is and none of its participants is addressed -/
def Untouched (x : Session) (srv' : Server) (ds : List Delivery) : Prop :=
  x ∈ srv'.sessions ∧ ∀ d ∈ ds, d.1 ∉ x.parts.map (·.conn)

section
variable {srv srv' : Server} {x s : Session} {c : Nat} {ds ds' : List Delivery}

theorem Untouched.nil (hx : x ∈ srv.sessions) : Untouched x srv [] := ⟨hx, fun _ h => nomatch h⟩

theorem Untouched.append (h : Untouched x srv ds) (h' : Untouched x srv' ds') : Untouched x srv' (ds ++ ds') :=
  ⟨h'.1, List.forall_mem_append.2 ⟨h.2, h'.2⟩⟩

theorem Untouched.of_sessions (h : Untouched x srv ds) (hs : srv'.sessions = srv.sessions) : Untouched x srv' ds :=
  ⟨hs ▸ h.1, h.2⟩

theorem Tgt.untouched {L : List Nat} (ht : Tgt L ds) (hx : x ∈ srv'.sessions) (hL : ∀ a ∈ L, a ∉ x.parts.map (·.conn)) :
    Untouched x srv' ds :=
  ⟨hx, fun d hd => hL _ (ht d hd)⟩

theorem Answers.untouched (h : Answers c ds) (hx : x ∈ srv'.sessions) (hc : c ∉ x.parts.map (·.conn)) : Untouched x srv' ds :=
  ⟨hx, fun d hd => (h d hd).1 ▸ hc⟩

theorem leave_frame_other (cfg : Cfg) (h : srv.WF) {p : Part} (hs : s ∈ srv.sessions) (hx : x ∈ srv.sessions) (hne : x.id ≠ s.id) :
    Untouched x (srv.leave cfg s p).1 (srv.leave cfg s p).2 := by
  refine (Server.leave_snd cfg srv s p ▸ leave_tgt cfg s p.pid).untouched ?_ (disjoint_conns h hx hs hne)
  rw [Server.leave_fst]
  split
  · exact List.mem_filter.mpr ⟨hx, by simpa using hne⟩
  · exact setSession_other hx hne

theorem disconnect_frame (cfg : Cfg) (h : srv.WF) (c : Nat) (hx : x ∈ srv.sessions) (hcx : c ∉ x.parts.map (·.conn)) :
    Untouched x (srv.disconnect cfg c).1 (srv.disconnect cfg c).2 := by
  unfold Server.disconnect
  cases hl : srv.locate c with
  | none => exact .nil hx
  | some sp => exact (leave_frame_other cfg h (p := sp.2) (Server.locate_some hl).1 hx (ne_of_located h hl hx hcx)).of_sessions rfl

theorem joinDeliveries_tgt (cfg : Cfg) (s : Session) (c rid ots : Nat) :
    Tgt (c :: s.parts.map (·.conn)) (joinDeliveries cfg (s.addPart c).1 (s.addPart c).2 rid ots) := by
  have self : c ∈ c :: s.parts.map (·.conn) := List.mem_cons_self ..
  unfold joinDeliveries
  refine .append (.append (.append (.cons self (.gate (.cons self .nil))) (.gate ?_)) (.ite (.cons self .nil) .nil))
    (.ite (.cons self .nil) .nil)
  refine Session.forall_mem_bcast fun q hq _ => ?_
  rcases List.mem_append.mp hq with hq | hq
  · exact List.mem_cons_of_mem _ (List.mem_map_of_mem hq)
  · rw [List.mem_singleton.mp hq]; exact self

theorem joinFresh_frame_other (cfg : Cfg) (h : srv.WF) (c rid ots : Nat) (t : JoinTarget) (hint : Nat)
    (hx : x ∈ srv.sessions) (hnamed : t ≠ .id x.id) (hc : c ∉ x.parts.map (·.conn)) :
    Untouched x (srv.joinFresh cfg c rid ots t hint).1 (srv.joinFresh cfg c rid ots t hint).2.1 := by
  refine Server.joinFresh_cases (motive := fun res => Untouched x res.1 res.2.1) cfg srv c rid ots t hint
    (fun _ => (Answers.one rfl).untouched hx hc) (fun s ht hs _ => ?_)
    (fun _ => (joinDeliveries_tgt cfg _ c rid ots).untouched (List.mem_append_left _ hx) (List.forall_mem_cons.2 ⟨hc, fun _ h => nomatch h⟩))
  have hne : x.id ≠ s.id := fun e => hnamed (e ▸ ht)
  exact (joinDeliveries_tgt cfg s c rid ots).untouched (setSession_other hx hne) (List.forall_mem_cons.2 ⟨hc, disjoint_conns h hx hs hne⟩)

theorem request_frame (cfg : Cfg) (h : srv.WF) (c : Nat) (r : Req) (hint : Nat) (hx : x ∈ srv.sessions)
    (hcx : c ∉ x.parts.map (·.conn)) (hr : ∀ rid ots, r ≠ .join rid ots (.id x.id)) :
    Untouched x (srv.handleReq cfg c r hint).1 (srv.handleReq cfg c r hint).2.1 := by
  have toC : ∀ {srv' : Server} {ds : List Delivery}, x ∈ srv'.sessions → Answers c ds → Untouched x srv' ds :=
    fun hx' hds => hds.untouched hx' hcx
  refine Server.handleReq_cases (motive := fun res => Untouched x res.1 res.2.1) cfg srv c r hint
    (fun _ _ => toC hx (.one rfl)) (fun rid ots t hj => ?_)
    (fun _ _ _ _ _ _ => toC hx (.one rfl)) (fun _ _ _ _ _ _ => toC hx (.one rfl))
    (fun _ => toC hx (notJoined_answers c r)) (fun s p hl => ?_)
  · have hnamed : t ≠ .id x.id := fun ht => hr rid ots (by rw [hj, ht])
    refine Server.join_cases (motive := fun res => Untouched x res.1 res.2.1) cfg srv c rid ots t hint
      (fun _ => joinFresh_frame_other cfg h c rid ots t hint hx hnamed hcx) (fun _ hds => toC hx hds) (fun s p hl _ => ?_)
    -- a switch: the answer to a measurement given up, the departure, then the join
    obtain ⟨hs, _, hpc⟩ := Server.locate_some hl
    have h1 := leave_frame_other cfg h hs hx (ne_of_located h hl hx hcx) (p := p)
    have h2 := joinFresh_frame_other cfg (Server.leave_WF cfg h hs) c rid ots t hint h1.1 hnamed hcx
    exact ((toC hx (hpc ▸ Answers.abandoned s p)).append h1).append h2
  · -- the request goes to the sender's session `s`, which is not `x`
    obtain ⟨hs, _, hpc⟩ := Server.locate_some hl
    have hne := ne_of_located h hl hx hcx
    exact (C03_handle_within cfg s p r hint).2.untouched (setSession_other hx ((s.handle_sameMembers cfg p r hint).1 ▸ hne))
      (List.forall_mem_cons.2 ⟨hpc ▸ hcx, disjoint_conns h hx hs hne⟩)

end

def concerns (srv : Server) (c : Nat) (r : Req) (sid : Nat) : Prop :=
  (∃ s p, srv.locate c = some (s, p) ∧ s.id = sid) ∨ (∃ rid ots, r = .join rid ots (.id sid))

/-- **C03, frame of one request.**  In a well-formed server (every reachable one is, `run_WF`), a request that does
    not concern session `x` - its sender is not a participant of `x` and it is not a request to join `x` by its id -
    leaves `x` registered exactly as it was and delivers nothing to any participant of `x`. -/
theorem C03_request_frame (cfg : Cfg) {srv : Server} (h : srv.WF) (c : Nat) (r : Req) (hint : Nat)
    {x : Session} (hx : x ∈ srv.sessions) (hn : ¬ concerns srv c r x.id) :
    Untouched x (srv.handleReq cfg c r hint).1 (srv.handleReq cfg c r hint).2.1 := by
  refine request_frame cfg h c r hint hx ?_ fun rid ots e => hn (.inr ⟨rid, ots, e⟩)
  cases hl : srv.locate c with
  | none => exact fun hm => have ⟨q, hq, hc⟩ := List.mem_map.mp hm; Server.locate_none hl x hx q hq hc
  | some sp =>
    obtain ⟨hs, hp, hpc⟩ := Server.locate_some hl
    exact hpc ▸ disjoint_conns h hx hs (fun he => hn (.inl ⟨sp.1, sp.2, hl, he.symm⟩)) _ (List.mem_map_of_mem hp)

/-- **C03, frame of one event.**  In a well-formed server (every reachable one is, `run_WF`), an event of a
    connection that is not a participant of session `x`, and that does not consume a request to join `x` by its
    id, leaves `x` registered exactly as it was and delivers nothing to any participant of `x`.  Events without
    an acting connection (frame ticks, the receipt consumer, a new connection) never do. -/
theorem C03_event_frame (cfg : Cfg) {srv : Server} (h : srv.WF) (ev : Event) {x : Session} (hx : x ∈ srv.sessions)
    (hout : ∀ c, (ev = .disconnect c ∨ (∃ r, ev = .recv c r) ∨ (∃ pick hint, ev = .handle c pick hint)) →
              c ∉ x.parts.map (·.conn))
    (hjoin : ∀ c pick hint k r k', ev = .handle c pick hint → srv.findConn c = some k → k.pop pick = some (r, k') →
              ∀ rid ots, r ≠ .join rid ots (.id x.id)) :
    Untouched x (step cfg srv ev).1 (step cfg srv ev).2.1 := by
  refine step_cases (motive := fun res => Untouched x res.1 res.2.1) cfg srv ev (fun _ _ => .nil hx) (.nil hx)
    (fun c ticks _ hc => disconnect_frame cfg (Server.WF_of_sessions_eq (b := { srv with ticks := ticks }) h rfl rfl rfl rfl) c hx
      (hout c (hc.imp_right .inl)))
    (fun c pick hint k r k' srv' ds o he hf hp hh => ?_)
  have hcx := hout c (.inr (.inr ⟨pick, hint, he⟩))
  have hw : (srv.setConn k').WF := Server.WF_of_sessions_eq h rfl rfl rfl rfl
  have hreq := request_frame cfg hw c r hint hx hcx (hjoin c pick hint k r k' he hf hp)
  have hw' := Server.handleReq_WF cfg hw c r hint
  rw [hh] at hreq hw'
  cases o with
  | ok => exact hreq
  | connError => exact hreq.append (disconnect_frame cfg hw' c hreq.1 hcx)
  | panic site => exact hreq.of_sessions rfl

/-- **C03, over a history.**  If every event of a history, at the moment it happens, comes from outside `x`
    and is not a request to join `x` (`outside` says so for the state the event meets), then at the end `x` is
    registered exactly as it was and nothing was ever delivered to one of its participants. -/
theorem C03_history_frame (cfg : Cfg) (x : Session) : ∀ (es : List Event) (srv : Server), srv.WF → x ∈ srv.sessions →
    (∀ (pre : List Event) (ev : Event) (post : List Event), es = pre ++ ev :: post →
        let cur := (run cfg srv pre).1
        (∀ c, (ev = .disconnect c ∨ (∃ r, ev = .recv c r) ∨ (∃ pick hint, ev = .handle c pick hint)) → c ∉ x.parts.map (·.conn)) ∧
        (∀ c pick hint k r k', ev = .handle c pick hint → cur.findConn c = some k → k.pop pick = some (r, k') →
            ∀ rid ots, r ≠ .join rid ots (.id x.id))) →
    Untouched x (run cfg srv es).1 (run cfg srv es).2 := by
  intro es
  induction es with
  | nil => intro srv _ hx _; exact .nil hx
  | cons e es ih =>
    intro srv hw hx hall
    have h0 := hall [] e es rfl
    have hstep := C03_event_frame cfg hw e hx h0.1 h0.2
    have hrest := ih (step cfg srv e).1 (step_WF cfg hw e) hstep.1 fun pre ev post hsplit =>
      hall (e :: pre) ev post (by rw [hsplit]; rfl)
    rw [run_cons]
    exact hstep.append hrest

/-- **C03, locality.**  What a participant's request does is a function of its own session record alone: two
    servers that hold the same session for the connection produce the same deliveries and the same new session,
    whatever other sessions either of them holds. -/
theorem C03_local (cfg : Cfg) (srv1 srv2 : Server) (c : Nat) (s : Session) (p : Part) (r : Req) (hint : Nat)
    (h1 : srv1.locate c = some (s, p)) (h2 : srv2.locate c = some (s, p))
    (hr : ∀ rid ots t, r ≠ .join rid ots t) (hrc : ∀ rid a b d, r ≠ .receipt rid a b d) (hp : ∀ rid, r ≠ .ping rid) :
    (srv1.handleReq cfg c r hint).2 = (srv2.handleReq cfg c r hint).2 ∧
    (srv1.handleReq cfg c r hint).2 = (s.handle cfg p r hint).2 ∧
    (srv1.handleReq cfg c r hint).1.sessions = (srv1.setSession (s.handle cfg p r hint).1).sessions ∧
    (srv2.handleReq cfg c r hint).1.sessions = (srv2.setSession (s.handle cfg p r hint).1).sessions := by
  rcases Server.handleReq_member cfg r hint with ⟨_, e⟩ | ⟨_, _, _, e⟩ | ⟨_, _, _, _, e⟩ | hh
  · exact absurd e (hp _)
  · exact absurd e (hr _ _ _)
  · exact absurd e (hrc _ _ _ _)
  · rw [hh _ _ _ _ h1, hh _ _ _ _ h2]
    exact ⟨rfl, rfl, rfl, rfl⟩

/-- **C03, outsiders.**  A connection that is in no session reaches nobody but itself and changes no session,
    unless it joins. -/
theorem C03_not_joined (cfg : Cfg) (srv : Server) (c : Nat) (r : Req) (hint : Nat) (hl : srv.locate c = none)
    (hr : ∀ rid ots t, r ≠ .join rid ots t) :
    (srv.handleReq cfg c r hint).1.sessions = srv.sessions ∧ Tgt [c] (srv.handleReq cfg c r hint).2.1 := by
  have toC : ∀ {ds : List Delivery}, Answers c ds → Tgt [c] ds := fun hds => hds.tgt (List.mem_cons_self ..)
  exact Server.handleReq_cases (motive := fun res => res.1.sessions = srv.sessions ∧ Tgt [c] res.2.1) cfg srv c r hint
    (fun _ _ => ⟨rfl, toC (.one rfl)⟩) (fun rid ots t he => absurd he (hr rid ots t))
    (fun _ _ _ _ _ _ => ⟨rfl, toC (.one rfl)⟩) (fun _ _ _ _ _ _ => ⟨rfl, toC (.one rfl)⟩)
    (fun _ => ⟨rfl, toC (notJoined_answers c r)⟩)
    (fun s p hl' => by rw [hl] at hl'; cases hl')

end Hagall
