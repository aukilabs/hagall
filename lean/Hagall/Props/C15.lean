/-
  C15 - only holders of a valid discovery-service token reach the relay or the smoke test.
  Partial: HMAC-SHA-2 is an oracle (`Tok.macOk`); unforgeability is a cryptographic assumption.
-/
import Hagall.Model.Auth
namespace Hagall.Props.C15
open Hagall.Auth

/-- The protected handler runs exactly when the request is admitted; a rejected request leaves the
    protected state untouched. -/
theorem C15_gate {σ : Type} (secretSet : Bool) (c : Carriers Tok) (inner : σ → σ) (st : σ) :
    ((guarded secretSet c inner st).2 = true ↔ admitted secretSet c = true) ∧
    (admitted secretSet c = false → (guarded secretSet c inner st).1 = st) := by
  unfold guarded
  cases h : admitted secretSet c <;> simp

/-- `claimsOk` without its case analysis: the ten-second leeway is the only way past a positive `iat`, so all that is
    left of the two branches is a bound on each claim that is present. -/
theorem claimsOk_iff (t : Tok) : claimsOk t = true ↔
    (∀ d, t.exp = some d → 0 < d) ∧ (∀ d, t.nbf = some d → d ≤ 0) ∧ (∀ d, t.iat = some d → d < 10) := by
  -- with the three tests and the leeway test as Booleans, the two branches are one conjunction
  have branches : ∀ e i n lee : Bool,
      (if !e && !i && !n then true else if i && !e && !n then lee else false) = (!e && !n && (!i || lee)) := by decide
  unfold claimsOk
  rw [branches]
  simp only [Bool.and_eq_true, and_assoc]
  refine and_congr ?_ (and_congr ?_ ?_)
  · cases t.exp <;> simp
  · cases t.nbf <;> simp
  · cases t.iat <;> simp
    omega

/-- what the gate checks, and all it checks -/
theorem admitted_iff (secretSet : Bool) (c : Carriers Tok) : admitted secretSet c = true ↔
    secretSet = true ∧ ∃ t, extract c = some t ∧ t.wellFormed = true ∧ t.alg ∈ hmacFamily ∧ t.macOk = true ∧
      (∀ d, t.exp = some d → 0 < d) ∧ (∀ d, t.nbf = some d → d ≤ 0) ∧ (∀ d, t.iat = some d → d < 10) ∧
      t.issHDS = true ∧ t.exp.isSome = true := by
  unfold admitted
  cases extract c with
  | none => simp only [Bool.and_false, Bool.false_eq_true, reduceCtorEq, false_and, exists_const, and_false]
  | some t =>
    simp only [verify, userToken, Bool.and_eq_true, List.contains_iff_mem, claimsOk_iff, Option.some.injEq, exists_eq_left',
      and_assoc]

/-- Admission implies: the server holds a secret, a token was presented on some carrier, it is well formed,
    signed with an HMAC algorithm, its MAC verifies against the *current* secret, it is not expired and not
    used before its not-before time (issued-at may lie at most ten seconds ahead), it names the discovery service as its
    issuer and carries an expiry time (F41). -/
theorem C15_sound (secretSet : Bool) (c : Carriers Tok) (h : admitted secretSet c = true) :
    secretSet = true ∧ ∃ t, extract c = some t ∧ t.wellFormed = true ∧ t.alg ∈ hmacFamily ∧ t.macOk = true ∧
      (∀ d, t.exp = some d → 0 < d) ∧ (∀ d, t.nbf = some d → d ≤ 0) ∧ (∀ d, t.iat = some d → d < 10) ∧
      t.issHDS = true ∧ t.exp.isSome = true :=
  (admitted_iff secretSet c).mp h

/-- No token at all, a token while the server holds no secret, an unsigned (`alg: none`) or asymmetric
    algorithm, a wrong MAC, an expired token, a token that is not well formed: each is rejected. -/
theorem C15_rejects (secretSet : Bool) (c : Carriers Tok) :
    (extract c = none → admitted secretSet c = false) ∧
    (secretSet = false → admitted secretSet c = false) ∧
    (∀ t, extract c = some t → t.alg ∉ hmacFamily → admitted secretSet c = false) ∧
    (∀ t, extract c = some t → t.macOk = false → admitted secretSet c = false) ∧
    (∀ t d, extract c = some t → t.exp = some d → d ≤ 0 → admitted secretSet c = false) ∧
    (∀ t, extract c = some t → t.wellFormed = false → admitted secretSet c = false) := by
  refine ⟨?_, ?_, ?_, ?_, ?_, ?_⟩
  · intro h; simp [admitted, h]
  · intro h; simp [admitted, h]
  · intro t h ha
    simp only [admitted, h, verify]
    have : hmacFamily.contains t.alg = false := by simpa using ha
    rw [this]; simp
  · intro t h hm; simp [admitted, h, verify, hm]
  · intro t d h hx hd
    have : claimsOk t = false := Bool.eq_false_iff.mpr fun hc =>
      Int.lt_irrefl _ (Int.lt_of_lt_of_le (((claimsOk_iff t).mp hc).1 d hx) hd)
    simp [admitted, h, verify, this]
  · intro t h hw; simp [admitted, h, verify, hw]

/-- **The server's own identity token is not an access token (F41).**  A token that does not name the discovery service
    as its issuer, or that never expires, is rejected whatever its signature: the identity the server signs with the
    same secret and returns to a health request carries an endpoint and nothing else. -/
theorem C15_identity_token_rejected (secretSet : Bool) (c : Carriers Tok) :
    (∀ t, extract c = some t → t.issHDS = false → admitted secretSet c = false) ∧
    (∀ t, extract c = some t → t.exp = none → admitted secretSet c = false) := by
  refine ⟨?_, ?_⟩
  · intro t h hi; simp [admitted, h, verify, userToken, hi]
  · intro t h hx; simp [admitted, h, verify, userToken, hx]

-- such a token with everything else in order: well formed, HS256, the MAC of the current secret, no time claim at all
example : admitted true ⟨some (true, { wellFormed := true, alg := "HS256", macOk := true, exp := none, iat := none, nbf := none, issHDS := false }), none, none⟩ = false := by
  decide +kernel
-- and a user token is admitted
example : admitted true ⟨some (true, { wellFormed := true, alg := "HS256", macOk := true, exp := some 3600, iat := some (-5), nbf := none, issHDS := true }), none, none⟩ = true := by
  decide +kernel

/-- Carrier precedence: an Authorization header with the exact prefix `Bearer ` wins over the query
    parameter, which wins over the cookie; a header without that prefix is ignored. -/
theorem C15_precedence {α : Type} (h : Option (Bool × α)) (q k : Option α) :
    (∀ t, h = some (true, t) → extract ⟨h, q, k⟩ = some t) ∧
    ((∀ t, h ≠ some (true, t)) → ∀ t, q = some t → extract ⟨h, q, k⟩ = some t) ∧
    ((∀ t, h ≠ some (true, t)) → q = none → extract ⟨h, q, k⟩ = k) := by
  have rest (hn : ∀ t, h ≠ some (true, t)) : extract ⟨h, q, k⟩ = (match q with | some t => some t | none => k) := by
    unfold extract
    cases h with
    | none => rfl
    | some v =>
      obtain ⟨b, x⟩ := v
      cases b
      · rfl
      · exact absurd rfl (hn x)
  exact ⟨fun t ht => by simp [extract, ht], fun hn t hq => by rw [rest hn, hq], fun hn hq => by rw [rest hn, hq]⟩

/-- non-vacuity: a valid token in the cookie is admitted; the same request is rejected when the header
    carries a stale token, because the header wins -/
example :
    let good : Tok := ⟨true, "HS256", true, some 3600, some (-5), none, true⟩
    let stale : Tok := ⟨true, "HS256", false, some 3600, some (-5), none, true⟩
    admitted true ⟨none, none, some good⟩ = true ∧ admitted true ⟨some (true, stale), none, some good⟩ = false ∧
    admitted false ⟨none, none, some good⟩ = false := by decide +kernel

end Hagall.Props.C15
