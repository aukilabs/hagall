/-
  C04 - every request is answered exactly once with the outcome the protocol defines.
  The protocol's decision table is `expectedAnswer` (Hagall/Spec/Answers.lean); the theorems say the
  handlers implement it: exactly that one answer, to the requester only.

  The table and a handler are the same decision list, one with answers and one with results at the leaves.
  `Meets` is what a leaf of the table asks of the leaf of the handler; it is kept by a test made on both sides
  (`Meets.ite`), so the two are compared test by test and the leaves closed by `Meets.refused` / `Meets.answer`.
-/
import Hagall.Spec.Answers
import Hagall.Proofs.DataInv
namespace Hagall.Props.C04
open Hagall

theorem answersTo_nil (c : Nat) : answersTo c [] = [] := rfl

theorem answersTo_append (c : Nat) (a b : List Delivery) : answersTo c (a ++ b) = answersTo c a ++ answersTo c b := by
  simp [answersTo]

theorem answersTo_cons_answer {c : Nat} {a : Out} {ds : List Delivery} (h : (rids a).isSome = true) :
    answersTo c ((c, a) :: ds) = a :: answersTo c ds := by
  simp [answersTo, h]

section
variable {c : Nat} {ds : List Delivery}

theorem answersTo_relays (h : ∀ d ∈ ds, rids d.2 = none) : answersTo c ds = [] := by
  unfold answersTo
  rw [List.map_eq_nil_iff, List.filter_eq_nil_iff]
  intro d hd
  simp [h d hd]

theorem answersTo_bcast {s : Session} {x : Nat} {m : Out} (h : rids m = none) : answersTo c (s.bcast x m) = [] :=
  answersTo_relays (Session.forall_mem_bcast fun _ _ _ => h)

theorem answersTo_unless {b : Prop} [Decidable b] (h : answersTo c ds = []) : answersTo c (if b then [] else ds) = [] := by
  split; rfl; exact h

theorem answersTo_gate {cfg : Cfg} {f : String} (h : answersTo c ds = []) : answersTo c (gate cfg f ds) = [] :=
  answersTo_unless h

end

theorem answersTo_gate_bcast (cfg : Cfg) (f : String) (s : Session) (c x : Nat) (m : Out) (h : rids m = none) :
    answersTo c (gate cfg f (s.bcast x m)) = [] :=
  answersTo_gate (answersTo_bcast h)

theorem answersTo_gate_bcastTo (cfg : Cfg) (f : String) (s : Session) (c x : Nat) (m : Out) (l : List Nat) (h : rids m = none) :
    answersTo c (gate cfg f (s.bcastTo x m l)) = [] :=
  answersTo_gate (answersTo_relays (Session.forall_mem_bcastTo fun _ _ _ => h))

def OnlyRequesterAnswered (c : Nat) (ds : List Delivery) : Prop := ∀ d ∈ ds, d.1 ≠ c → rids d.2 = none

/-- What the table, giving `o` for a request of `p`, asks of the result `res` of handling it in session `s`: the
    requester is sent exactly that answer, and a refusal has left the session as it was.  `none` asks nothing. -/
def Meets (s : Session) (p : Part) (o : Option Out) (res : Res) : Prop :=
  ∀ a, o = some a → answersTo p.conn res.2.1 = [a] ∧ ∀ rid code, a = .error rid code → res.1 = s

section
variable {s t : Session} {p : Part} {o : Outcome} {res : Res}

theorem Meets.of_none : Meets s p none res := fun _ h => nomatch h

theorem Meets.ite {b : Bool} {o₁ o₂ : Option Out} {r₁ r₂ : Res} (h₁ : Meets s p o₁ r₁) (h₂ : Meets s p o₂ r₂) :
    Meets s p (if b then o₁ else o₂) (if b then r₁ else r₂) := by
  cases b; exact h₂; exact h₁

theorem Meets.loaded {b : Bool} {o' : Option Out} (hb : b = true) (h : Meets s p o' res) :
    Meets s p (if !b then Option.none else o') res := by
  subst hb; exact h

theorem Meets.refused {rid code : Nat} : Meets s p (some (.error rid code)) (s, [(p.conn, .error rid code)], o) := by
  rintro _ ⟨⟩
  exact ⟨answersTo_cons_answer rfl, fun _ _ _ => rfl⟩

theorem Meets.of_answers {a : Out} {ds : List Delivery} (hds : answersTo p.conn ds = [a])
    (hok : ∀ rid code, a ≠ .error rid code := by nofun) : Meets s p (some a) (t, ds, o) := by
  rintro _ ⟨⟩
  exact ⟨hds, fun rid code h => absurd h (hok rid code)⟩

/-- the answer first, then what answers nobody (relays); that `a` is an answer and no error is settled by evaluation at
    each use: the default arguments -/
theorem Meets.answer {a : Out} {ds : List Delivery} (hds : answersTo p.conn ds = [])
    (hok : ∀ rid code, a ≠ .error rid code := by nofun) (ha : (rids a).isSome = true := by rfl) :
    Meets s p (some a) (t, (p.conn, a) :: ds, o) :=
  .of_answers (by rw [answersTo_cons_answer ha, hds]) hok

end

variable (cfg : Cfg) (s : Session) (p : Part)

/-- **The table against the core handler**, request kind by request kind: `.ite` where both make the same test, `cases`
    where both look the same thing up, and at the leaves a refusal, or the answer with its relays. -/
theorem core_table (r : Req) (hint : Nat)
    (hcore : match r with | .action .. | .assetAdd .. | .groundPlane .. | .region .. | .debugInfo .. => False | _ => True) :
    Meets s p (expectedAnswer cfg s p r) (s.core cfg p r hint) := by
  cases r
  case action | assetAdd | groundPlane | region | debugInfo => exact False.elim hcore
  case signedLatency => exact .ite .refused (.ite .refused .of_none)
  case entityAdd => exact .answer (answersTo_gate (answersTo_bcast rfl))
  case entityDelete rid ots eid =>
    dsimp only [expectedAnswer, Session.core, Session.entityDelete]
    cases s.findEnt eid
    · exact .refused
    · exact .ite .refused (.answer (answersTo_gate (answersTo_bcast rfl)))
  case typeAdd rid name =>
    refine .ite .refused ?_
    unfold Session.typeAdd
    cases s.typeId name <;> exact .answer rfl
  case typeGetName rid tid =>
    refine .ite .refused ?_
    cases s.typeName tid
    · exact .refused
    · exact .answer rfl
  case typeGetId rid name =>
    refine .ite .refused ?_
    cases s.typeId name
    · exact .refused
    · exact .answer rfl
  case compAdd rid ots tid eid data =>
    refine .ite .refused ?_
    unfold Session.compAdd
    cases s.findEnt eid
    · exact .refused
    · exact .ite .refused (.ite .refused (.answer (answersTo_gate (answersTo_unless (answersTo_bcast rfl)))))
  case compDelete rid ots tid eid =>
    refine .ite .refused ?_
    unfold Session.compDelete
    cases s.findEnt eid
    · exact .refused
    · refine .ite .refused (.of_answers ?_)
      rw [answersTo_append, answersTo_gate (answersTo_unless (answersTo_bcast rfl))]
      exact answersTo_cons_answer rfl
  case compList => exact .ite .refused (.answer rfl)
  case subscribe => exact .ite .refused (.ite .refused (.answer rfl))
  case unsubscribe => exact .ite .refused (.answer rfl)
  all_goals exact .of_none

/-- **Core requests.** Whenever the decision table defines an answer, the core handler delivers exactly
    that answer to the requester, and no answer to anybody else. -/
theorem C04_core_answer (r : Req) (hint : Nat) (a : Out)
    (hcore : match r with | .action .. | .assetAdd .. | .groundPlane .. | .region .. | .debugInfo .. => False | _ => True)
    (h : expectedAnswer cfg s p r = some a) :
    answersTo p.conn (s.core cfg p r hint).2.1 = [a] :=
  (core_table cfg s p r hint hcore a h).1

/-- **Entity actions (vikja).** The vikja handler delivers exactly the table's answer to the requester. -/
theorem C04_action_answer (rid ots : Nat) (act : Option Action) (a : Out) (hv : cfg.vikja = true)
    (h : expectedAnswer cfg s p (.action rid ots act) = some a) :
    answersTo p.conn (s.vikja p (.action rid ots act)).2.1 = [a] := by
  refine (Meets.loaded hv ?_ : Meets s p _ (s.vikja p (.action rid ots act))) a h |>.1
  cases act
  · exact .refused
  · exact .ite (.answer (answersTo_bcast rfl)) .refused

/-- **Asset instances (odal).** The odal handler delivers exactly the table's answer to the requester. -/
theorem C04_asset_answer (rid ots eid : Nat) (assetId : String) (a : Out) (ho : cfg.odal = true)
    (h : expectedAnswer cfg s p (.assetAdd rid ots assetId eid) = some a) :
    answersTo p.conn (s.odal p (.assetAdd rid ots assetId eid)).2.1 = [a] := by
  refine (Meets.loaded ho (.ite .refused ?_) : Meets s p _ (s.odal p (.assetAdd rid ots assetId eid))) a h |>.1
  cases s.findEnt eid
  · exact .refused
  · exact .ite .refused (.answer (answersTo_bcast rfl))

/-- **Ground-plane queries (dagaz).** Each is answered exactly once. -/
theorem C04_dagaz_answer (r : Req) (a : Out) (hd : cfg.dagaz = true)
    (hk : match r with | .groundPlane .. | .region .. | .debugInfo .. => True | _ => False)
    (h : expectedAnswer cfg s p r = some a) :
    answersTo p.conn (s.dagaz p r).2.1 = [a] := by
  cases r
  case groundPlane | region | debugInfo =>
    -- `expectedAnswer ..` unfolds definitionally to `if cfg.dagaz then some _ else none`: `h` is read as an equation on it
    cases (if_pos hd).symm.trans h
    exact answersTo_cons_answer rfl
  all_goals exact False.elim hk

/-- A request that needs a session, sent by a connection that is in none, is never executed: the server
    state is untouched; the request is answered with an error, dropped, or ends the connection. -/
theorem C04_not_joined (srv : Server) (c : Nat) (r : Req) (hint : Nat) (hl : srv.locate c = none)
    (hneeds : match r with | .ping .. | .join .. | .receipt .. => False | _ => True) :
    (srv.handleReq cfg c r hint).1 = srv ∧
    (∀ d ∈ (srv.handleReq cfg c r hint).2.1, d.1 = c ∧ ∃ rid code, d.2 = .error rid code) :=
  let E (ds : List Delivery) : Prop := ∀ d ∈ ds, d.1 = c ∧ ∃ rid code, d.2 = .error rid code
  Server.handleReq_cases (motive := fun res => res.1 = srv ∧ E res.2.1) cfg srv c r hint
    (fun _ he => by subst he; exact False.elim hneeds) (fun _ _ _ he => by subst he; exact False.elim hneeds)
    (fun _ _ _ _ _ he => by subst he; exact False.elim hneeds) (fun _ _ _ _ he => by subst he; exact False.elim hneeds)
    (fun _ => ⟨rfl, notJoined_induction (P := E) c r (List.forall_mem_nil _) fun rid code =>
      List.forall_mem_singleton.mpr ⟨rfl, rid, code, rfl⟩⟩)
    (fun _ _ hl' => by rw [hl] at hl'; cases hl')

/-- no module attachment outlives its entity -/
def AttachOK (s : Session) : Prop :=
  (∀ a ∈ s.actions, (s.findEnt a.eid).isSome) ∧ (∀ a ∈ s.assets, (s.findEnt a.eid).isSome)

theorem unchanged_of_sideEffect {r : Req} {res : Res} {rid code : Nat} (he : s.SideEffect cfg p r res) (hat : AttachOK s)
    (h : expectedAnswer cfg s p r = some (.error rid code)) : res.1 = s := by
  cases he
  case answered => rfl
  case actionsDropped he => rw [filter_attached hat.1 he]
  case assetsDropped he => rw [filter_attached hat.2 he]
  case action hv hok =>
    dsimp only [expectedAnswer] at h
    rw [hv, hok] at h
    cases h
  case assetAdd ho hid he hown =>
    dsimp only [expectedAnswer] at h
    rw [ho, he, beq_eq_false_iff_ne.mpr hid] at h
    dsimp only at h
    rw [hown, bne_self_eq_false] at h
    cases h
  case quads => cases h

/-- **A refused request changes nothing.** When the table's answer is an error, the session after the
    whole `handleMessage` path (core handler and every module) is the session before. -/
theorem C04_refused_unchanged (r : Req) (hint rid code : Nat) (hat : AttachOK s)
    (h : expectedAnswer cfg s p r = some (.error rid code)) :
    (s.handle cfg p r hint).1 = s := by
  have core : (s.core cfg p r hint).1 = s := by
    have table := fun hcore => (core_table cfg s p r hint hcore _ h).2 _ _ rfl
    cases r
    case action | assetAdd | groundPlane | region | debugInfo => rfl
    all_goals exact table trivial
  exact Session.handle_induction_from (Q := fun t res => t = s → res.1 = s) cfg p r hint (fun h1 h2 ht => h2 (h1 ht)) (fun _ => core)
    (fun t res he ht => by subst ht; exact unchanged_of_sideEffect cfg t p he hat h) rfl

/-- the hypothesis of `C04_refused_unchanged` holds in every session of every reachable state -/
theorem C04_attach_invariant (cfg : Cfg) (h : List Event) : ∀ s ∈ (run cfg {} h).1.sessions, AttachOK s := by
  intro s hs
  have := run_DataOK cfg h s hs
  exact ⟨this.act_ent, this.asset_ent⟩

end Hagall.Props.C04
