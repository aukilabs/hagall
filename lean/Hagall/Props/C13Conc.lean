/-
  C13 under concurrency: for every interleaving of component updates of one type with subscriptions and unsubscriptions
  (`Model/Notify.lean`, one transition per critical section), a participant is sent no update after the answer to its
  unsubscribe request, never its own update, nothing at all if it never subscribed, and - if it stays subscribed - every
  update made by others exactly once, in the order the updates were made.
  `C13_split_notify_reaches_an_unsubscribed_member` is the kernel-checked interleaving of a Notify that relays outside
  the subscription lock.
-/
import Hagall.Model.Notify
namespace Hagall.Props.C13Conc
open Hagall.Notify

/-- no update after the answer to the unsubscribe request -/
def Clean : List Item → Prop
  | [] => True
  | .notified _ :: rest => Clean rest
  | .unsubscribed :: rest => (∀ b, Item.notified b ∉ rest) ∧ Clean rest

theorem Clean_concat {l : List Item} (h : Clean l) (it : Item) (hn : it ≠ .unsubscribed → Item.unsubscribed ∉ l) :
    Clean (l ++ [it]) := by
  induction l with
  | nil => cases it <;> simp [Clean]
  | cons x xs ih =>
    cases x with
    | notified b => exact ih h fun e m => hn e (List.mem_cons_of_mem _ m)
    | unsubscribed =>
      cases it with
      | notified b => exact absurd (List.mem_cons_self ..) (hn nofun)
      | unsubscribed => exact ⟨fun b => by simp [h.1 b], ih h.2 fun e => absurd rfl e⟩

structure Inv (s : St) : Prop where
  gone : ∀ c, s.stage c ≠ 0 → c ∉ s.subs
  unanswered : ∀ c, s.stage c ≠ 2 → Item.unsubscribed ∉ s.inbox c
  clean : ∀ c, Clean (s.inbox c)
  own : ∀ c, Item.notified c ∉ s.inbox c

/-- The four clauses speak of one connection at a time, and a critical section changes at most what they say of the
    connection that runs it (`notify`: of those it is relayed to). -/
theorem Inv_step (s : St) (h : Inv s) (m : Move) (hm : m.current = true) : Inv (step s m) := by
  suffices key : ∀ x, ((step s m).stage x ≠ 0 → x ∉ (step s m).subs) ∧
      ((step s m).stage x ≠ 2 → Item.unsubscribed ∉ (step s m).inbox x) ∧
      Clean ((step s m).inbox x) ∧ Item.notified x ∉ (step s m).inbox x from
    ⟨fun x => (key x).1, fun x => (key x).2.1, fun x => (key x).2.2.1, fun x => (key x).2.2.2⟩
  intro x
  have hx : _ ∧ _ ∧ _ ∧ _ := ⟨h.gone x, h.unanswered x, h.clean x, h.own x⟩
  cases m with
  | snapshot b => cases hm
  | serve => cases hm
  | notify b =>
    dsimp only [step, relay]
    split
    · next hin =>
      -- a subscriber has not asked to unsubscribe, so has not been answered
      have ⟨hmem, hne⟩ : x ∈ s.subs ∧ x ≠ b := by simpa using hin
      have hu := h.unanswered x fun e => h.gone x (by rw [e]; decide) hmem
      exact ⟨h.gone x, fun _ => by simpa using hu, Clean_concat (h.clean x) _ fun _ => hu, by simp [h.own x, hne]⟩
    · exact hx
  | subscribe c =>
    dsimp only [step]
    by_cases h0 : s.stage c = 0
    · rw [if_pos h0]
      refine ⟨fun hs hm => ?_, hx.2⟩
      rcases List.mem_cons.mp hm with e | hm
      · exact hs (e ▸ h0)
      · exact h.gone x hs (List.mem_filter.mp hm).1
    · rw [if_neg h0]; exact hx
  | unsub c =>
    dsimp only [step]
    by_cases h0 : s.stage c = 0
    · rw [if_pos h0]
      by_cases e : x = c
      · subst e; exact ⟨fun _ hm => by simp at hm, fun _ => h.unanswered x (by rw [h0]; decide), hx.2.2⟩
      · simp only [e, if_false]; exact ⟨fun hs hm => h.gone x hs (List.mem_filter.mp hm).1, hx.2⟩
    · rw [if_neg h0]; exact hx
  | answer c =>
    dsimp only [step]
    by_cases h1 : s.stage c = 1
    · rw [if_pos h1]
      by_cases e : x = c
      · subst e
        exact ⟨fun _ => h.gone x (by rw [h1]; decide), fun hs => by simp at hs, by simpa using Clean_concat (h.clean x) .unsubscribed fun e => absurd rfl e,
          by simp [h.own x]⟩
      · simpa only [e, if_false] using hx
    · rw [if_neg h1]; exact hx

theorem Inv_init (subs : List Nat) : Inv { subs } :=
  ⟨fun _ hc => absurd rfl hc, fun _ _ => List.not_mem_nil, fun _ => trivial, fun _ => List.not_mem_nil⟩

theorem Inv_run (ms : List Move) (s : St) (h : Inv s) (hms : ∀ m ∈ ms, m.current = true) : Inv (run s ms) :=
  List.foldlRecOn ms _ h fun s hs m hm => Inv_step s hs m (hms m hm)

/-- **Nothing after unsubscribing.**  Whatever the interleaving of updates, subscriptions, unsubscriptions and answers,
    and whoever is subscribed at the start, no connection is sent an update of the type after the answer to its
    unsubscribe request. -/
theorem C13_conc_nothing_after_unsubscribing (subs : List Nat) (ms : List Move) (hms : ∀ m ∈ ms, m.current = true) (c : Nat) :
    Clean ((run { subs } ms).inbox c) :=
  (Inv_run ms { subs } (Inv_init subs) hms).clean c

/-- **Never its own.**  No participant is notified of an update it made itself. -/
theorem C13_conc_never_own_update (subs : List Nat) (ms : List Move) (hms : ∀ m ∈ ms, m.current = true) (c : Nat) :
    Item.notified c ∉ (run { subs } ms).inbox c :=
  (Inv_run ms { subs } (Inv_init subs) hms).own c

/-- the updates a connection was sent, in order -/
def notes (l : List Item) : List Nat := l.filterMap fun | .notified b => some b | .unsubscribed => none

/-- the updates made by others than `c`, in the order they were made -/
def madeByOthers (c : Nat) (ms : List Move) : List Nat := ms.filterMap fun | .notify b => if b = c then none else some b | _ => none

theorem notes_step (s : St) {m : Move} (hm : m.current = true) (c : Nat) :
    notes ((step s m).inbox c) = notes (s.inbox c) ++ if c ∈ s.subs then madeByOthers c [m] else [] := by
  cases m with
  | snapshot b => cases hm
  | serve => cases hm
  | notify b =>
    dsimp only [step, relay]
    by_cases hs : c ∈ s.subs
    · by_cases e : b = c
      · simp [e, madeByOthers]
      · simp [hs, e, Ne.symm e, notes, madeByOthers]
    · simp [hs]
  | subscribe x | unsub x =>
    show notes _ = notes (s.inbox c) ++ if c ∈ s.subs then [] else []
    rw [ite_self, List.append_nil]; dsimp only [step]; split <;> rfl
  | answer x =>
    show notes _ = notes (s.inbox c) ++ if c ∈ s.subs then [] else []
    rw [ite_self, List.append_nil]; dsimp only [step]
    split
    · by_cases e : c = x
      · simp [e, notes]
      · simp [e]
    · rfl

theorem subs_step {s : St} {m : Move} (hm : m.current = true) (c : Nat) :
    (m ≠ .subscribe c → c ∈ (step s m).subs → c ∈ s.subs) ∧ (m ≠ .unsub c → c ∈ s.subs → c ∈ (step s m).subs) := by
  cases m with
  | snapshot b => cases hm
  | serve => cases hm
  | notify b => exact ⟨fun _ => id, fun _ => id⟩
  | subscribe x =>
    dsimp only [step]
    by_cases h0 : s.stage x = 0
    · rw [if_pos h0]
      exact ⟨fun hne hc => (List.mem_filter.mp ((List.mem_cons.mp hc).resolve_left fun e => hne (e ▸ rfl))).1,
        fun _ hs => if e : c = x then e ▸ List.mem_cons_self .. else List.mem_cons_of_mem _ (List.mem_filter.mpr ⟨hs, by simpa using e⟩)⟩
    · rw [if_neg h0]; exact ⟨fun _ => id, fun _ => id⟩
  | unsub x =>
    dsimp only [step]
    by_cases h0 : s.stage x = 0
    · rw [if_pos h0]
      exact ⟨fun _ hc => (List.mem_filter.mp hc).1, fun hne hs => List.mem_filter.mpr ⟨hs, by simpa using fun e : c = x => hne (e ▸ rfl)⟩⟩
    · rw [if_neg h0]; exact ⟨fun _ => id, fun _ => id⟩
  | answer x =>
    dsimp only [step]
    by_cases h1 : s.stage x = 1
    · rw [if_pos h1]; exact ⟨fun _ => id, fun _ => id⟩
    · rw [if_neg h1]; exact ⟨fun _ => id, fun _ => id⟩

/-- **Nobody that is not subscribed.**  A participant that is not subscribed at the start and never subscribes is sent
    no update, whatever the others do. -/
theorem C13_conc_only_subscribers (subs : List Nat) (ms : List Move) (hms : ∀ m ∈ ms, m.current = true) (c : Nat)
    (h0 : c ∉ subs) (hnever : Move.subscribe c ∉ ms) : notes ((run { subs } ms).inbox c) = [] :=
  (List.foldlRecOn (motive := fun s => c ∉ s.subs ∧ notes (s.inbox c) = []) ms step ⟨h0, rfl⟩ fun s hs m hm =>
    ⟨fun hc => hs.1 ((subs_step (hms m hm) c).1 (fun e => hnever (e ▸ hm)) hc), by rw [notes_step s (hms m hm), hs.2, if_neg hs.1]; rfl⟩).2

/-- **Every update of the others, once, in order.**  A participant that is subscribed at the start and does not ask to
    unsubscribe is sent exactly the updates the others make, each once, in the order they were made - whoever else
    subscribes, unsubscribes or is answered in between. -/
theorem C13_conc_subscriber_gets_each_update_once (subs : List Nat) (ms : List Move) (hms : ∀ m ∈ ms, m.current = true) (c : Nat)
    (h0 : c ∈ subs) (hstay : Move.unsub c ∉ ms) : notes ((run { subs } ms).inbox c) = madeByOthers c ms := by
  suffices key : ∀ (s : St), c ∈ s.subs → notes ((run s ms).inbox c) = notes (s.inbox c) ++ madeByOthers c ms from key { subs } h0
  induction ms with
  | nil => intro s _; simp [run, madeByOthers]
  | cons m ms ih =>
    intro s hs
    have hm := hms m (List.mem_cons_self ..)
    show notes ((run (step s m) ms).inbox c) = _
    rw [ih (fun m' h' => hms m' (List.mem_cons_of_mem _ h')) (fun h' => hstay (List.mem_cons_of_mem _ h')) _
        ((subs_step hm c).2 (fun e => hstay (e ▸ List.mem_cons_self ..)) hs),
      notes_step s hm, if_pos hs, List.append_assoc]
    exact congrArg _ List.filterMap_append.symm

/-- the premises are met by a run in which a subscriber unsubscribes between two updates: it gets the first only, the
    other subscriber both, the updater none -/
example : let s := run { subs := [1, 2, 3] } [.notify 1, .unsub 2, .answer 2, .notify 1]
    s.inbox 2 = [.notified 1, .unsubscribed] ∧ s.inbox 3 = [.notified 1, .notified 1] ∧ s.inbox 1 = [] := by decide

/-- **A Notify that relays outside the subscription lock** (the shape of `BroadcastTo` before F22, and of the seeded
    change C13-f).  The subscribers are read, one of them unsubscribes and is answered, then the update is handed over:
    it arrives after the answer. -/
theorem C13_split_notify_reaches_an_unsubscribed_member :
    let s := run { subs := [1, 2] } [.snapshot 1, .unsub 2, .answer 2, .serve]
    s.inbox 2 = [.unsubscribed, .notified 1] ∧ ¬ Clean (s.inbox 2) := by
  intro s
  have h : s.inbox 2 = [.unsubscribed, .notified 1] := by decide
  refine ⟨h, ?_⟩
  rw [h]; simp [Clean]

end Hagall.Props.C13Conc
