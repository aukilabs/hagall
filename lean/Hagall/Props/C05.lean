/-
  C05 - only the creator of an entity can delete it, move it or attach an asset to it; ownership is
  fixed at creation.  Session-level theorems (the whole `handleMessage` path: core handler + modules).
-/
import Hagall.Proofs.Frame
namespace Hagall.Props.C05
open Hagall

variable (cfg : Cfg) (s : Session) (p : Part)

/-- A delete request for an entity owned by somebody else is refused with UNAUTHORIZED and changes
    nothing - through the core handler and every module. -/
theorem C05_delete_guard (rid ots eid hint : Nat) (e : Entity) (he : s.findEnt eid = some e) (hne : e.owner ≠ p.pid) :
    s.handle cfg p (.entityDelete rid ots eid) hint = (s, [(p.conn, .error rid ecUnauthorized)], .ok) := by
  have hb : (e.owner != p.pid) = true := bne_iff_ne.mpr hne
  simp [Session.handle_entityDelete, he, hb]

/-- A delete request for an entity that does not exist is refused with NOT_FOUND; entities, components,
    types, subscriptions and participants are untouched. -/
theorem C05_delete_unknown (rid ots eid hint : Nat) (he : s.findEnt eid = none) :
    let r := s.handle cfg p (.entityDelete rid ots eid) hint
    r.2.1 = [(p.conn, .error rid ecNotFound)] ∧ r.2.2 = .ok ∧ s.sameCore r.1 := by
  rw [Session.handle_entityDelete, he]
  exact ⟨rfl, rfl, rfl, rfl, rfl, rfl, rfl, rfl, rfl, rfl⟩

/-- A pose update of a foreign or unknown entity is dropped silently: no state change, no delivery. -/
theorem C05_pose_guard (ots eid hint : Nat) (pose : Option Nat)
    (h : s.findEnt eid = none ∨ ∃ e, s.findEnt eid = some e ∧ e.owner ≠ p.pid) :
    s.handle cfg p (.updatePose ots eid pose) hint = (s, [], .ok) := by
  rw [Session.handle_eq_core cfg s p _ hint trivial]
  exact Session.updatePose_dropped cfg s p ots eid pose (h.imp_right .inl)

/-- An asset-instance add for a foreign entity is refused with UNAUTHORIZED (NOT_FOUND for an unknown
    one) and changes nothing. -/
theorem C05_asset_guard (rid ots eid : Nat) (assetId : String) (hid : assetId ≠ "")
    (h : s.findEnt eid = none ∨ ∃ e, s.findEnt eid = some e ∧ e.owner ≠ p.pid) :
    ∃ code, (code = ecNotFound ∨ code = ecUnauthorized) ∧
      s.odal p (.assetAdd rid ots assetId eid) = (s, [(p.conn, .error rid code)], .ok) := by
  have hid' : (assetId == "") = false := beq_eq_false_iff_ne.mpr hid
  rcases h with h | ⟨e, he, hne⟩
  · exact ⟨ecNotFound, Or.inl rfl, by simp [Session.odal, hid', h]⟩
  · have : (e.owner != p.pid) = true := bne_iff_ne.mpr hne
    exact ⟨ecUnauthorized, Or.inr rfl, by simp [Session.odal, hid', he, this]⟩

/-- what may happen to the entity table in one step: every entity present afterwards either existed
    before with the same owner, persistence and flag, or is the one the requester just created under
    the next fresh id -/
def EntsEvolve (pid : Nat) (s s' : Session) : Prop :=
  ∀ e ∈ s'.ents,
    (∃ e0 ∈ s.ents, e0.id = e.id ∧ e0.owner = e.owner ∧ e0.persist = e.persist ∧ e0.flag = e.flag) ∨
    (e.id = s.eidCur + 1 ∧ e.owner = pid ∧ s'.eidCur = s.eidCur + 1)

theorem effect_entsEvolve {cfg : Cfg} {s : Session} {p : Part} {r : Req} {g : Cfg → Res}
    (h : s.Effect cfg p r g) : EntsEvolve p.pid s (g cfg).1 := by
  intro e he
  have stays : e ∈ s.ents → ∃ e0 ∈ s.ents, e0.id = e.id ∧ e0.owner = e.owner ∧ e0.persist = e.persist ∧ e0.flag = e.flag :=
    fun he => ⟨e, he, rfl, rfl, rfl, rfl⟩
  cases h
  case side h => exact Or.inl (stays (h.sameCore.1 ▸ he))
  case entityAdd =>
    rcases List.mem_append.mp he with he | he
    · exact Or.inl (stays he)
    · rw [List.mem_singleton.mp he]
      exact Or.inr ⟨rfl, rfl, rfl⟩
  case entityDelete => exact Or.inl (stays (List.mem_filter.mp he).1)
  case updatePose =>
    obtain ⟨x, hx, rfl⟩ := List.mem_map.mp he
    exact Or.inl ⟨x, hx, by split <;> simp⟩
  all_goals exact Or.inl (stays he)

/-- **Ownership is fixed at creation.**  A request adds an entity (owned by the requester, fresh id), removes or
    re-poses entities, never re-assigns them.  So does the core handler, by cases on its effect (`effect_entsEvolve`),
    and no module touches the entity table at all (`modules_sameCore`). -/
theorem C05_owner_immutable (r : Req) (hint : Nat) : EntsEvolve p.pid s (s.handle cfg p r hint).1 := by
  have hcore := effect_entsEvolve (s.core_effect cfg p hint r)
  unfold Session.handle
  rcases hc : s.core cfg p r hint with ⟨s', ds, o⟩
  rw [hc] at hcore
  cases o
  · rw [Res.andThen_ok]
    have hm := Session.modules_sameCore cfg p r s'
    intro e he
    rw [hm.1] at he
    rcases hcore e he with h | ⟨h1, h2, h3⟩
    · exact Or.inl h
    · exact Or.inr ⟨h1, h2, by rw [hm.2.1]; exact h3⟩
  · exact hcore
  · exact hcore

end Hagall.Props.C05
