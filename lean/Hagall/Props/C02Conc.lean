/-
  C02 under concurrency, the clause "members that stay get exactly one copy while others leave": on the relay model
  (`Model/Relay.lean`, a relay is one critical section under the participants lock), a participant that does not leave
  is sent every relay of the session exactly once, whatever the interleaving with the departures of the others.
-/
import Hagall.Model.Relay
namespace Hagall.Props.C02Conc
open Hagall.Relay

def relays (ms : List Move) : Nat := (ms.filter fun m => m == .relay).length

theorem step_stayer (s : St) (c : Nat) (m : Move) (hm : m.current = true) (hne : m ≠ .remove c) (hmem : c ∈ s.members)
    (h0 : s.stage c = 0) :
    c ∈ (step s m).members ∧ (step s m).stage c = 0 ∧
    (step s m).inbox c = s.inbox c ++ (if m == .relay then [Item.relayed] else []) := by
  cases m with
  | lookup => cases hm
  | handOver => cases hm
  | relay => exact ⟨hmem, h0, by simp [step, serve, hmem]⟩
  | remove d =>
    have hcd : c ≠ d := fun e => hne (e ▸ rfl)
    dsimp only [step]
    by_cases hd : s.stage d = 0
    · rw [if_pos hd]; exact ⟨List.mem_filter.mpr ⟨hmem, by simpa using hcd⟩, by simp [hcd, h0], by simp⟩
    · rw [if_neg hd]; exact ⟨hmem, h0, by simp⟩
  | answer d =>
    dsimp only [step]
    by_cases h1 : s.stage d = 1
    · have hcd : c ≠ d := fun e => by subst e; omega
      rw [if_pos h1]; exact ⟨hmem, by simp [hcd, h0], by simp [hcd]⟩
    · rw [if_neg h1]; exact ⟨hmem, h0, by simp⟩

/-- **A member that stays gets every relay exactly once.** -/
theorem C02_conc_stayer_gets_each_relay_once (members : List Nat) (ms : List Move) (hms : ∀ m ∈ ms, m.current = true)
    (c : Nat) (hc : c ∈ members) (hstay : ∀ m ∈ ms, m ≠ .remove c) :
    (run { members } ms).inbox c = List.replicate (relays ms) .relayed := by
  suffices key : ∀ s : St, c ∈ s.members → s.stage c = 0 →
      (run s ms).inbox c = s.inbox c ++ List.replicate (relays ms) .relayed from by simpa using key { members } hc rfl
  induction ms with
  | nil => intro s _ _; simp [run, relays]
  | cons m ms ih =>
    intro s hm h0
    have ⟨hm', h0', hin⟩ := step_stayer s c m (hms m (List.mem_cons_self ..)) (hstay m (List.mem_cons_self ..)) hm h0
    show (run (step s m) ms).inbox c = _
    rw [ih (fun x hx => hms x (List.mem_cons_of_mem _ hx)) (fun x hx => hstay x (List.mem_cons_of_mem _ hx)) _ hm' h0', hin,
      List.append_assoc]
    by_cases hr : (m == Move.relay) = true <;> simp [relays, hr, List.replicate_succ]

example : let s := run { members := [1, 2, 3] } [.relay, .remove 2, .relay, .answer 2, .relay]
    s.inbox 1 = [.relayed, .relayed, .relayed] ∧ s.inbox 3 = [.relayed, .relayed, .relayed] ∧ s.inbox 2 = [.relayed, .movedOn] := by decide

end Hagall.Props.C02Conc
