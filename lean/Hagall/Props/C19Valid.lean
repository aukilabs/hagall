import Hagall.Model.Receipt
/-
  C19, the "if and only if": of the receipts accepted into the queue, exactly the well-formed ones are forwarded, each as
  often as it was accepted and unchanged; one whose hash is not the Keccak-256 of its text, whose signature is not 65 bytes
  or carries a recovery id above 3 (F42: whatever the linked `Ecrecover` makes of it), or from which no key is recovered,
  never.  Keccak-256 and the curve arithmetic are oracles (`Triple.hashOk`, `Triple.recovers`); the tie to
  `receipt/handler.go` is the receipts harness, built with and without cgo: per accepted triple it prints the four facts
  and how often the stand-in credit service received it, and the driver evaluates `wellFormed`.
-/
namespace Hagall.Props.C19Valid
open Hagall.Receipt

theorem C19_forwarded_iff (q : List Triple) (t : Triple) : t ∈ forwards q ↔ t ∈ q ∧ wellFormed t = true := by
  simp [forwards, List.mem_filter]

/-- as often as it was accepted (never twice for one acceptance), and what is forwarded is what was accepted -/
theorem C19_forwarded_count (q : List Triple) (t : Triple) :
    (forwards q).count t = if wellFormed t then q.count t else 0 := by
  unfold forwards
  split
  · exact List.count_filter ‹_›
  · exact List.count_eq_zero.2 fun hm => ‹¬ _› (List.mem_filter.1 hm).2

theorem C19_forwards_sublist (q : List Triple) : (forwards q).Sublist q := List.filter_sublist

/-- each of the four ways of being invalid is enough; for the recovery id whatever the oracle says (F42) -/
theorem C19_invalid_never_forwarded (q : List Triple) (t : Triple) :
    (t.hashOk = false → t ∉ forwards q) ∧ (t.sigLen ≠ 65 → t ∉ forwards q) ∧
    (3 < t.recId → t ∉ forwards q) ∧ (t.recovers = false → t ∉ forwards q) := by
  have w (hm : t ∈ forwards q) : t.hashOk = true ∧ t.sigLen = 65 ∧ t.recId ≤ 3 ∧ t.recovers = true := by
    simpa only [wellFormed, Bool.and_eq_true, beq_iff_eq, decide_eq_true_eq, and_assoc] using
      ((C19_forwarded_iff q t).1 hm).2
  exact ⟨fun h hm => Bool.noConfusion (h.symm.trans (w hm).1), fun h hm => h (w hm).2.1,
    fun h hm => Nat.not_le_of_lt h (w hm).2.2.1, fun h hm => Bool.noConfusion (h.symm.trans (w hm).2.2.2)⟩

-- a valid triple accepted twice is forwarded twice; the same with recovery id 4, which the pure Go Ecrecover recovers, never
example : (forwards [⟨true, 65, 1, true⟩, ⟨true, 65, 4, true⟩, ⟨true, 65, 1, true⟩, ⟨false, 65, 0, true⟩]).count ⟨true, 65, 1, true⟩ = 2 ∧
          (forwards [⟨true, 65, 1, true⟩, ⟨true, 65, 4, true⟩]) = [⟨true, 65, 1, true⟩] := by decide

end Hagall.Props.C19Valid
