import Hagall.Model.Premature
/-
  C05 / C16 under concurrency: a refused request changes nothing - also when it names an entity id that is about to be
  issued.  Whatever the interleaving of the owner's two steps (create the entity, attach to it) with the clean-up of any
  number of refused delete requests for that id, the attachment is there once the owner is done.  Before the repair F46
  the look-up and the removal of the clean-up were two steps: `C05_old_split_cleanup_removes_a_fresh_attachment`.
  That the look-up is made inside the removal's critical section is `Gen/AbsOrder.cleanup_looks_up_under_the_state_lock`.
-/
namespace Hagall.Props.C05Premature
open Hagall.Premature

/-- the entity is there from the owner's first step on; once the owner is done the attachment is there -/
def Inv (s : St) : Prop := (1 ≤ s.owner → s.there = true) ∧ (s.owner = 2 → s.attached = true)

theorem Inv_step (s : St) (m : Move) (h : Inv s) : Inv (step false s m) := by
  cases m with
  | owner =>
    dsimp only [step]
    split
    · exact ⟨fun _ => rfl, nofun⟩
    · next h1 => exact ⟨fun _ => h.1 (by rw [h1]; decide), fun _ => rfl⟩
    · exact h
  | stranger c =>
    simp only [step, Bool.false_eq_true, if_false]
    split
    · exact h
    · -- the entity is not there yet, so the owner has not started: nothing is attached that could be lost
      next ht => exact ⟨h.1, fun (e : s.owner = 2) => absurd (h.1 (by rw [e]; decide)) ht⟩

/-- **A refused delete request for an id not yet issued removes nothing.**  For every interleaving of the owner's steps
    with the clean-ups of any number of such requests: once the owner is done, the entity and its attachment are there. -/
theorem C05_conc_refused_delete_keeps_a_fresh_attachment (ms : List Move) (hd : (run false {} ms).owner = 2) :
    (run false {} ms).there = true ∧ (run false {} ms).attached = true :=
  have h : Inv (run false {} ms) := List.foldlRecOn ms _ (by simp [Inv]) fun s hs m _ => Inv_step s m hs
  ⟨h.1 (by omega), h.2 hd⟩

-- the premises are met: clean-ups before, between and after the owner's steps
example : let s := run false {} [.stranger 1, .owner, .stranger 2, .owner, .stranger 1]
    s.owner = 2 ∧ s.there = true ∧ s.attached = true := by decide

/-- **Before the repair (F46).**  A stranger's clean-up looks the entity up and does not find it; the owner creates the
    entity and attaches to it; the clean-up removes the attachment: the entity is there, every delete request was
    refused, and the attachment is gone. -/
theorem C05_old_split_cleanup_removes_a_fresh_attachment :
    let s := run true {} [.stranger 1, .owner, .owner, .stranger 1]
    s.owner = 2 ∧ s.there = true ∧ s.attached = false := by decide

end Hagall.Props.C05Premature
