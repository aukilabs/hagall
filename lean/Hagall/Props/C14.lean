/-
  C14 - custom messages reach exactly the addressed members, unmodified, within the size limit.
-/
import Hagall.Proofs.Handle
namespace Hagall.Props.C14
open Hagall

/-- The limit the model uses is the protocol's 10240 bytes (the constant extracted from the source is
    tied to it by the facts obligation `Hagall.Gen.customMessageMaxSize_eq (Hagall/Gen/AbsCustom.lean)`). -/
theorem C14_limit : customMessageMaxSize = 10240 := rfl

/-- A body larger than the limit is refused with TOO_LARGE, delivered to no one, and changes nothing. -/
theorem C14_too_large (cfg : Cfg) (s : Session) (p : Part) (ots : Nat) (pids : List Nat) (body : Bytes)
    (h : body.length > 10240) :
    s.custom cfg p ots pids body = (s, [(p.conn, .error 0 ecTooLarge)], .ok) :=
  if_pos h

theorem custom_within (cfg : Cfg) (s : Session) (p : Part) (ots : Nat) (pids : List Nat) (body : Bytes)
    (hlen : body.length ≤ 10240) :
    s.custom cfg p ots pids body =
      (s, gate cfg fCustom (if pids.length != 0 then s.bcastTo p.pid (.customBcast ots p.pid body) pids
                            else s.bcast p.pid (.customBcast ots p.pid body)), .ok) :=
  if_neg (Nat.not_lt.mpr hlen)

/-- A body within the limit (10240 bytes included) is delivered byte for byte, stamped with the sender's
    participant id: exactly once to every other participant when no recipient is named, otherwise exactly
    once to each named participant that is in the session - duplicates, unknown ids and the sender itself
    are ignored; nobody else receives anything, and the session is unchanged. Parametric in `body`. -/
theorem C14_delivery (cfg : Cfg) (s : Session) (p : Part) (ots : Nat) (pids : List Nat) (body : Bytes)
    (hc : (s.parts.map (·.conn)).Nodup) (hp : (s.parts.map (·.pid)).Nodup)
    (hlen : body.length ≤ 10240) (hflag : cfg.flags.contains fCustom = false) :
    let r := s.custom cfg p ots pids body
    let m := Out.customBcast ots p.pid body
    r.1 = s ∧ r.2.2 = .ok ∧
    (∀ q ∈ s.parts, countTo q.conn m r.2.1 = if q.pid ≠ p.pid ∧ (pids = [] ∨ q.pid ∈ pids) then 1 else 0) ∧
    (∀ d ∈ r.2.1, d.2 = m ∧ ∃ q ∈ s.parts, q.pid ≠ p.pid ∧ (pids = [] ∨ q.pid ∈ pids) ∧ d.1 = q.conn) := by
  rw [custom_within cfg s p ots pids body hlen]
  simp only [gate_open hflag, true_and]
  cases pids with
  | nil =>
    refine ⟨fun q hq => ?_, fun d hd => ?_⟩
    · exact (s.count_bcast hc p.pid _ q hq).trans (by simp only [true_or, and_true])
    · obtain ⟨h1, q, hq, hne, hd1⟩ := Session.mem_bcast hd
      exact ⟨h1, q, hq, hne, Or.inl rfl, hd1⟩
  | cons a as =>
    refine ⟨fun q hq => ?_, fun d hd => ?_⟩
    · exact (s.count_bcastTo hc hp p.pid _ (a :: as) q hq).trans (by simp only [reduceCtorEq, false_or, and_comm])
    · obtain ⟨h1, q, hq, hne, hin, hd1⟩ := Session.mem_bcastTo hd
      exact ⟨h1, q, hq, hne, Or.inr hin, hd1⟩

/-- With the custom-message flag set nothing is delivered (and nothing else changes). -/
theorem C14_flagged (cfg : Cfg) (s : Session) (p : Part) (ots : Nat) (pids : List Nat) (body : Bytes)
    (hlen : body.length ≤ 10240) (hflag : cfg.flags.contains fCustom = true) :
    s.custom cfg p ots pids body = (s, [], .ok) := by
  rw [custom_within cfg s p ots pids body hlen, gate, if_pos hflag]

/-- Through the whole `handleMessage` path (core handler, then every loaded module) a custom message
    is exactly `Session.custom`: no module reacts to it. -/
theorem C14_handle (cfg : Cfg) (s : Session) (p : Part) (ots : Nat) (pids : List Nat) (body : Bytes) (hint : Nat) :
    s.handle cfg p (.custom ots pids body) hint = s.custom cfg p ots pids body := by
  rw [Session.handle_eq_core cfg s p _ hint trivial]
  rfl

/-- non-vacuity: a three-member session, a body addressed to [2, 2, 9, 1] from participant 1 -/
example :
    let s : Session := { id := 1, uuid := 1, pidCur := 3, parts := [⟨1, 10⟩, ⟨2, 20⟩, ⟨3, 30⟩] }
    (s.custom {} ⟨1, 10⟩ 7 [2, 2, 9, 1] [1, 2, 3]).2.1 = [(20, .customBcast 7 1 [1, 2, 3])] := by
  decide +kernel

end Hagall.Props.C14
