/-
  C07 (and the session-id clause of C10) for every lock-granularity interleaving of joins, switches and departures of
  any number of connections: theorems about the concurrent registry model `Model/Registry.lean`, whose transitions are
  the critical sections of `HandleParticipantJoin` / `leaveSession` (tied to /repo by the skeleton and lock facts and by
  the schedule exploration of the real handlers, which is judged by `Spec.quiescentRegistry` - the executable reading
  of `C07_conc_quiescent`).
-/
import Hagall.Proofs.Registry
import Hagall.Model.RegistryOld
namespace Hagall.Props.C07Conc
open Hagall.Registry

/-- The invariant holds after every interleaving, of any length, of any number of connections. -/
theorem C07_conc_invariant (ms : List Move) : Inv (run {} ms) := Inv.init.run ms

/-- A join that was answered with success is never orphaned, at any moment and whatever the other connections are in
    the middle of: while a connection's handler rests in session object `o`, `o` has not ended, the registry resolves
    `o`'s number to `o` itself, and the connection is one of `o`'s participants. -/
theorem C07_conc_join_never_orphaned (ms : List Move) (c o : Nat) (h : (run {} ms).pc c = .idle (some o)) :
    let s := run {} ms
    (s.obj o).ended = false ∧ lookup s.reg (s.obj o).id = some o ∧ c ∈ (s.obj o).members := by
  intro s
  have hi : Inv s := C07_conc_invariant ms
  have hh : o ∈ held (s.pc c) := by rw [h]; simp [held]
  have ⟨he, hr⟩ := hi.member_alive hh
  exact ⟨he, (lookup_eq_some hi.regNodup).mpr hr, (hi.mem c o (hi.heldLive c o hh)).mpr hh⟩

/-- A session is unregistered exactly once: the gauge equals the number of registered sessions at every moment, and
    no two registered sessions share a number. -/
theorem C07_conc_registry_consistent (ms : List Move) :
    let s := run {} ms
    s.gauge = s.reg.length ∧ (s.reg.map Prod.fst).Nodup := by
  intro s; exact ⟨(C07_conc_invariant ms).gauge, (C07_conc_invariant ms).regNodup⟩

/-- At every quiescent moment (no handler inside a request) the discoverable sessions are exactly the non-empty ones:
    every registered session has at least one participant, each of them a connection resting in it, and every session
    object that has not ended is registered. -/
theorem C07_conc_quiescent (ms : List Move) (hq : ∀ c, ∃ cur, (run {} ms).pc c = .idle cur) :
    let s := run {} ms
    (∀ i o, (i, o) ∈ s.reg → (s.obj o).ended = false ∧ (s.obj o).members ≠ [] ∧
        ∀ c ∈ (s.obj o).members, s.pc c = .idle (some o)) ∧
    (∀ o, o < s.n → (s.obj o).ended = false → ((s.obj o).id, o) ∈ s.reg) := by
  intro s
  have hi : Inv s := C07_conc_invariant ms
  refine ⟨?_, fun o ho he => (hi.alive o ho he).1⟩
  intro i o hm
  have ho := hi.regOk i o hm
  -- an ended session that is still registered is being unregistered by a handler, and nobody is inside a request
  have he : (s.obj o).ended = false := Bool.eq_false_iff.mpr fun he =>
    have ⟨c, k, hk⟩ := (hi.dead o ho.1 he).2.mp (ho.2 ▸ hm)
    have ⟨cur, hc⟩ := hq c
    nomatch hc.symm.trans hk
  refine ⟨he, (hi.alive o ho.1 he).2, ?_⟩
  intro c hc
  have := (hi.mem c o ho.1).mp hc
  obtain ⟨cur, hcur⟩ := hq c
  rw [hcur] at this ⊢
  exact congrArg _ (Option.mem_toList.mp this)

/-- C10, session ids under concurrency: two session objects that are both live (not ended) never carry the same
    number, whatever the interleaving. -/
theorem C10_conc_live_sessions_have_distinct_ids (ms : List Move) (o o' : Nat) :
    let s := run {} ms
    o < s.n → o' < s.n → (s.obj o).ended = false → (s.obj o').ended = false → (s.obj o).id = (s.obj o').id → o = o' := by
  intro s ho ho' he he' hid
  have hi : Inv s := C07_conc_invariant ms
  have h1 := (hi.alive o ho he).1
  have h2 := (hi.alive o' ho' he').1
  rw [hid] at h1
  exact hi.reg_inj h1 h2

/-- The interleaving that orphaned a join before the repair (connection 1, alone in its session, switches to a new one
    while connection 2 joins the old one by its number): in the model of the repaired code, if connection 2 looks the
    session up before the last departure and adds itself after it, it is refused and stays where it was. -/
example :
    let s := run {} [(1, .joinNew, 0), (1, .joinNew, 0), (1, .joinNew, 0),       -- 1 creates session number 1
                     (1, .joinNew, 0),                                            -- 1 asks for a new one: about to leave
                     (2, .joinId 1, 0),                                           -- 2 looks number 1 up: found
                     (1, .joinNew, 0),                                            -- 1 removes itself: last, session ended
                     (2, .joinId 1, 0),                                           -- 2 adds itself: refused
                     (1, .joinNew, 0), (1, .joinNew, 0), (1, .joinNew, 0)]        -- 1 unregisters, takes a number, registers
    s.pc 2 = .idle none ∧ s.pc 1 = .idle (some 1) ∧ s.reg = [(1, 1)] ∧ s.gauge = 1 := by decide +kernel

/-- premises of `C07_conc_quiescent` are satisfiable with a registered two-member session -/
example :
    let s := run {} [(1, .joinNew, 0), (1, .joinNew, 0), (1, .joinNew, 0), (2, .joinId 1, 0), (2, .joinId 1, 0)]
    s.pc 1 = .idle (some 0) ∧ s.pc 2 = .idle (some 0) ∧ (s.obj 0).members = [2, 1] ∧ s.reg = [(1, 0)] := by decide +kernel

/-- Before the repair (F20): connection 1, alone in session number 1, switches to a new session while connection 2 joins
    number 1.  Connection 2 looks the session up, connection 1 removes itself, finds the session empty and unregisters
    it, connection 2 adds itself: its join is answered with success and it rests in a session that no longer resolves -
    connection 1's new session is registered under the same number. -/
theorem C07_old_code_orphans_a_join :
    let s := RegistryOld.run {} [(1, .joinNew, 0), (1, .joinNew, 0), (1, .joinNew, 0), (1, .joinNew, 0),   -- 1 creates number 1 (object 0)
                                 (1, .joinNew, 0),                    -- 1 asks for a new session: about to leave
                                 (2, .joinId 1, 0),                   -- 2 looks number 1 up: object 0
                                 (1, .joinNew, 0), (1, .joinNew, 0), (1, .joinNew, 0),   -- 1 removes itself, counts 0, unregisters
                                 (2, .joinId 1, 0),                   -- 2 adds itself to object 0
                                 (1, .joinNew, 0), (1, .joinNew, 0), (1, .joinNew, 0)]   -- 1 takes number 1 again, registers, enters
    s.pc 2 = .idle (some 0) ∧ s.pc 1 = .idle (some 1) ∧ lookup s.reg (s.obj 0).id = some 1 ∧ (s.obj 1).id = (s.obj 0).id := by
  decide +kernel

/-- Before the repair (F20): the two participants of a session depart at once; both remove themselves before either
    counts, both count zero, both unregister: the gauge goes below the number of registered sessions. -/
theorem C07_old_code_unregisters_twice :
    let s := RegistryOld.run {} [(1, .joinNew, 0), (1, .joinNew, 0), (1, .joinNew, 0), (1, .joinNew, 0),   -- 1 creates number 1
                                 (2, .joinId 1, 0), (2, .joinId 1, 0),                    -- 2 joins it
                                 (1, .disconnect, 0), (2, .disconnect, 0),                -- both ask to leave
                                 (1, .disconnect, 0), (2, .disconnect, 0),                -- both remove themselves
                                 (1, .disconnect, 0), (2, .disconnect, 0),                -- both count zero
                                 (1, .disconnect, 0), (2, .disconnect, 0)]                -- both unregister
    s.reg = [] ∧ s.gauge = -1 := by
  decide +kernel

end Hagall.Props.C07Conc
