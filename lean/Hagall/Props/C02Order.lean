import Hagall.Model.Server
/-
  C02, last clause - "pose and component updates, which wait for the next frame, keep their order per entity only" - is
  FALSE of the code (known finding F40): the scheduler of a connection (hagall-common `websocket.NewScheduler`, modelled by
  `Conn.dispatch` / `Conn.flush` / `Conn.pop`) keeps the waiting pose updates and the waiting component updates in two
  maps and releases all poses before all component updates.  The witness below is kernel-checked on the model;
  `corpus/F40-component-update-then-pose-in-one-frame.hist` is the same history on the real handlers, and the monitor
  cause `deferred-updates-of-an-entity-reordered` reports it wherever it occurs.
-/
namespace Hagall.Props.C02Order
open Hagall

/-- a connection is sent a component update of entity 1, then a pose update of entity 1; at the next frame the pose
    update is released first: every recipient is relayed the later update before the earlier one -/
theorem C02_deferred_updates_of_one_entity_reordered :
    let k0 : Conn := { id := 1 }
    let k1 := (k0.dispatch (.compUpdate 7 1 1 [2])).1
    let k2 := (k1.dispatch (.updatePose 8 1 (some 9))).1
    (k2.flush 1).queue.map (·.req) = [.updatePose 8 1 (some 9), .compUpdate 7 1 1 [2]] ∧
    -- and no choice of the consumer puts them back in order: the head group holds the pose update alone
    (headGroup (k2.flush 1).queue).map (·.req) = [.updatePose 8 1 (some 9)] := by decide +kernel

/-- updates of one kind keep their order of first arrival, and a later update of the same entity takes the place of the
    waiting one (coalescing): two pose updates of entities 1 and 2, then another of entity 1 -/
example :
    let k0 : Conn := { id := 1 }
    let k1 := (k0.dispatch (.updatePose 1 1 (some 5))).1
    let k2 := (k1.dispatch (.updatePose 2 2 (some 6))).1
    let k3 := (k2.dispatch (.updatePose 3 1 (some 7))).1
    (k3.flush 1).queue.map (·.req) = [.updatePose 3 1 (some 7), .updatePose 2 2 (some 6)] := by decide +kernel

end Hagall.Props.C02Order
