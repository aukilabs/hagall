/-
  C03, the trace form (noninterference) at the level of handled requests: what the members of a session are sent is the
  same whether or not the other connections' requests happen.

  A history here is a list of requests as the handlers consume them (`Server.handleReq`, followed by the departure
  when the request ends the connection).  `proj` keeps the requests that concern session `xid`: those of its current
  members and the requests to join it by id.  `obs` is what the members of `xid` (after each step) are sent.  The
  theorem: `obs` of the whole history from `s1` equals `obs` of the projected history from any `s2` that agrees with
  `s1` on the session - in particular from `s1` itself.

  Hypotheses (`Admissible`): no receipts (the receipt queue is the one resource all connections share by design, C19);
  no signed latency requests, from servers in which no measurement runs (`NoLat`, kept by every other request): the
  answer to a measurement given up when its participant switches sessions (F37b) reaches a connection that is by then a
  member of the session it joins, and depends on what that connection did in the session it left;
  a member of the session does not ask to join ANOTHER session by id (whether that session exists is, legitimately,
  visible to the members it would leave - it may leave by disconnecting or by asking for a session of its own); one member, the anchor, only listens (so the session does not end; what
  happens around the end of a session and the reuse of its id is C07 / C10).  The scheduler in front of the handler
  (per-connection queues, frames) is state of the connection itself and is not part of this statement.
-/
import Hagall.Props.C03
namespace Hagall.Props.C03Trace
open Hagall

structure RE where
  c : Nat
  r : Req
  hint : Nat
deriving Repr, Inhabited

/-- the handler of connection `e.c` handles request `e.r`; a request that ends the connection is followed by its departure -/
def stepReq (cfg : Cfg) (srv : Server) (e : RE) : Server × List Delivery :=
  match (srv.handleReq cfg e.c e.r e.hint).2.2 with
  | .connError =>
    (((srv.handleReq cfg e.c e.r e.hint).1.disconnect cfg e.c).1,
     (srv.handleReq cfg e.c e.r e.hint).2.1 ++ ((srv.handleReq cfg e.c e.r e.hint).1.disconnect cfg e.c).2)
  | _ => ((srv.handleReq cfg e.c e.r e.hint).1, (srv.handleReq cfg e.c e.r e.hint).2.1)

def NoLat (srv : Server) : Prop := ∀ s ∈ srv.sessions, s.lats = []

theorem NoLat.disconnect {cfg : Cfg} {srv : Server} (h : NoLat srv) (c : Nat) : NoLat (srv.disconnect cfg c).1 :=
  Server.disconnect_sessions (fun _ _ h => Session.leave_lats_nil h) h c

theorem NoLat.step {cfg : Cfg} {srv : Server} (h : NoLat srv) (e : RE) (hr : e.r.isLatency = false) : NoLat (stepReq cfg srv e).1 := by
  have h1 : NoLat (srv.handleReq cfg e.c e.r e.hint).1 :=
    Server.handleReq_sessions (fun s p hs => Session.handle_lats_nil cfg p e.r e.hint s hs hr)
      (fun _ _ hs => Session.leave_lats_nil hs) (fun _ _ hs => hs) (fun _ _ => rfl) h
  unfold stepReq
  split
  · exact h1.disconnect e.c
  · exact h1

def members (srv : Server) (xid : Nat) : List Nat :=
  match srv.findSession xid with
  | some x => x.parts.map (·.conn)
  | none => []

/-- what the members of session `xid` (as it is after the step) are sent -/
def seen (srv' : Server) (xid : Nat) (ds : List Delivery) : List Delivery :=
  ds.filter fun d => (members srv' xid).contains d.1

def isJoinTo (xid : Nat) : Req → Bool
  | .join _ _ (.id n) => n == xid
  | _ => false

def insider (srv : Server) (xid : Nat) (e : RE) : Bool :=
  (members srv xid).contains e.c || isJoinTo xid e.r

def obs (cfg : Cfg) (xid : Nat) : Server → List RE → List Delivery
  | _, [] => []
  | srv, e :: es => seen (stepReq cfg srv e).1 xid (stepReq cfg srv e).2 ++ obs cfg xid (stepReq cfg srv e).1 es

def proj (cfg : Cfg) (xid : Nat) : Server → List RE → List RE
  | _, [] => []
  | srv, e :: es =>
    if insider srv xid e then e :: proj cfg xid (stepReq cfg srv e).1 es else proj cfg xid (stepReq cfg srv e).1 es

def isReceipt : Req → Bool
  | .receipt .. => true
  | _ => false

def joinsOther (xid : Nat) : Req → Bool
  | .join _ _ (.id n) => n != xid
  | _ => false

def Admissible (cfg : Cfg) (xid a : Nat) : Server → List RE → Prop
  | _, [] => True
  | srv, e :: es =>
    isReceipt e.r = false ∧ e.r.isLatency = false ∧ e.c ≠ a ∧
    ((members srv xid).contains e.c = true → joinsOther xid e.r = false) ∧
    Admissible cfg xid a (stepReq cfg srv e).1 es

structure Agree (xid a : Nat) (s1 s2 : Server) : Prop where
  wf1 : s1.WF
  wf2 : s2.WF
  same : ∃ x, x ∈ s1.sessions ∧ x ∈ s2.sessions ∧ x.id = xid ∧ a ∈ x.parts.map (·.conn)

theorem stepReq_WF (cfg : Cfg) {srv : Server} (h : srv.WF) (e : RE) : (stepReq cfg srv e).1.WF := by
  unfold stepReq
  split
  · exact Server.disconnect_WF cfg (Server.handleReq_WF cfg h e.c e.r e.hint) e.c
  · exact Server.handleReq_WF cfg h e.c e.r e.hint

theorem stepReq_of_ok {cfg : Cfg} {srv srv' : Server} {c hint : Nat} {r : Req} {ds : List Delivery}
    (h : srv.handleReq cfg c r hint = (srv', ds, .ok)) : stepReq cfg srv ⟨c, r, hint⟩ = (srv', ds) := by
  unfold stepReq
  rw [h]

theorem members_of_mem {srv : Server} (h : srv.WF) {x : Session} (hx : x ∈ srv.sessions) :
    members srv x.id = x.parts.map (·.conn) := by
  unfold members
  rw [findSession_of_mem h.ids_nodup hx]

section
variable {srv : Server} {x : Session} {xid : Nat} {ds : List Delivery}

theorem seen_of_mem (h : srv.WF) (hx : x ∈ srv.sessions) (ds : List Delivery) :
    seen srv x.id ds = ds.filter fun d => (x.parts.map (·.conn)).contains d.1 := by
  unfold seen
  rw [members_of_mem h hx]

theorem seen_append (srv : Server) (xid : Nat) (a b : List Delivery) : seen srv xid (a ++ b) = seen srv xid a ++ seen srv xid b :=
  List.filter_append ..

theorem seen_untouched (h : srv.WF) (hu : Untouched x srv ds) : seen srv x.id ds = [] := by
  rw [seen_of_mem h hu.1]
  exact List.filter_eq_nil_iff.mpr fun d hd => mt List.contains_iff_mem.mp (hu.2 d hd)

theorem isJoinTo_iff {r : Req} : isJoinTo xid r = true ↔ ∃ rid ots, r = .join rid ots (.id xid) := by
  constructor
  · intro h
    unfold isJoinTo at h
    split at h
    · exact ⟨_, _, by rw [beq_iff_eq.mp h]⟩
    · cases h
  · rintro ⟨rid, ots, rfl⟩
    exact beq_self_eq_true xid

theorem outsider_step (cfg : Cfg) (h : srv.WF) (hx : x ∈ srv.sessions) (e : RE) (hin : insider srv x.id e = false) :
    Untouched x (stepReq cfg srv e).1 (stepReq cfg srv e).2 := by
  rw [insider, members_of_mem h hx, Bool.or_eq_false_iff] at hin
  have hmem : e.c ∉ x.parts.map (·.conn) := fun hc => Bool.eq_false_iff.mp hin.1 (List.contains_iff_mem.mpr hc)
  have h1 := request_frame cfg h e.c e.r e.hint hx hmem fun rid ots he => Bool.eq_false_iff.mp hin.2 (isJoinTo_iff.mpr ⟨rid, ots, he⟩)
  unfold stepReq
  split
  · exact h1.append (disconnect_frame cfg (Server.handleReq_WF cfg h e.c e.r e.hint) e.c h1.1 hmem)
  · exact h1

/-- the step `e` is local to the session record `x`: every server that holds `x` (and runs no measurement) holds `x'`
    after it and has shown its members what is theirs of `D` -/
def Local (cfg : Cfg) (x : Session) (e : RE) (x' : Session) (D : List Delivery) : Prop :=
  ∀ srv : Server, srv.WF → NoLat srv → x ∈ srv.sessions → x' ∈ (stepReq cfg srv e).1.sessions ∧
    seen (stepReq cfg srv e).1 x'.id (stepReq cfg srv e).2 = D.filter fun d => (x'.parts.map (·.conn)).contains d.1

theorem Local.of_exact {cfg : Cfg} {e : RE} {x' : Session} {D : List Delivery}
    (h : ∀ srv : Server, srv.WF → x ∈ srv.sessions → x' ∈ (stepReq cfg srv e).1.sessions ∧ (stepReq cfg srv e).2 = D) :
    Local cfg x e x' D := fun srv hw _ hx =>
  have ⟨hx', hds⟩ := h srv hw hx
  ⟨hx', hds ▸ seen_of_mem (stepReq_WF cfg hw e) hx' _⟩

theorem Local.of_answer {cfg : Cfg} {c hint : Nat} {r : Req} {D : List Delivery}
    (h : ∀ srv : Server, srv.WF → x ∈ srv.sessions → srv.handleReq cfg c r hint = (srv, D, .ok)) :
    Local cfg x ⟨c, r, hint⟩ x D :=
  .of_exact fun srv hw hx => stepReq_of_ok (h srv hw hx) ▸ ⟨hx, rfl⟩

theorem mem_addPart_conns {c a : Nat} : a ∈ (x.addPart c).1.parts.map (·.conn) ↔ a ∈ x.parts.map (·.conn) ∨ a = c := by
  simp only [Session.addPart, List.map_append, List.map_cons, List.map_nil, List.mem_append, List.mem_singleton]

theorem anchor_stays (hn : (x.parts.map (·.pid)).Nodup) {p : Part} (hp : p ∈ x.parts) {a : Nat}
    (ha : a ∈ x.parts.map (·.conn)) (hne : a ≠ p.conn) (cfg : Cfg) : a ∈ (x.leave cfg p.pid).1.parts.map (·.conn) := by
  obtain ⟨q, hq, rfl⟩ := List.mem_map.mp ha
  exact List.mem_map_of_mem (Session.mem_leave_parts.mpr ⟨hq, fun e => hne (congrArg _ (eq_of_nodup_map hn hq hp e))⟩)

theorem leave_member {cfg : Cfg} {p : Part} {a : Nat} (ha : a ∈ (x.leave cfg p.pid).1.parts.map (·.conn)) :
    srv.leave cfg x p = (srv.setSession (x.leave cfg p.pid).1, (x.leave cfg p.pid).2) :=
  leave_of_remaining fun e => by simp [e] at ha

theorem member_request (cfg : Cfg) (hn : (x.parts.map (·.pid)).Nodup) {p : Part} (hp : p ∈ x.parts) {a : Nat}
    (ha : a ∈ x.parts.map (·.conn)) (hne : a ≠ p.conn) {r : Req} {hint : Nat} (hh : Server.Handled cfg r hint) :
    ∃ x' D, x'.id = x.id ∧ a ∈ x'.parts.map (·.conn) ∧ Local cfg x ⟨p.conn, r, hint⟩ x' D := by
  have hsm := Session.handle_sameMembers cfg x p r hint
  have hh := fun srv => hh srv p.conn x p
  rcases hres : x.handle cfg p r hint with ⟨x1, ds1, o⟩
  simp only [hres] at hsm hh
  have hid : x1.id = x.id := hsm.1
  have hreq : ∀ srv : Server, srv.WF → x ∈ srv.sessions →
      srv.handleReq cfg p.conn r hint = (srv.setSession x1, ds1, o) ∧ x1 ∈ (srv.setSession x1).sessions :=
    fun srv hw hx => ⟨hh srv (Server.locate_member hw hx hp), mem_setSession_self hx hid⟩
  rw [← hsm.2.2.2] at hn hp ha
  by_cases ho : o = .connError
  · have ha1 := anchor_stays hn hp ha hne cfg
    refine ⟨(x1.leave cfg p.pid).1, _, hid, ha1,
      .of_exact (D := ds1 ++ (x1.leave cfg p.pid).2) fun srv hw hx => ?_⟩
    obtain ⟨h1, hx1⟩ := hreq srv hw hx
    have hl1 := Server.locate_member (Server.setSession_WF hw hx hsm) hx1 hp
    simp only [stepReq, h1, ho, Server.disconnect, hl1, leave_member ha1, and_true]
    exact mem_setSession_self hx1 rfl
  · refine ⟨x1, _, hid, ha, .of_exact (D := ds1) fun srv hw hx => ?_⟩
    obtain ⟨h1, hx1⟩ := hreq srv hw hx
    unfold stepReq
    rw [h1]
    split
    · exact absurd ‹_› ho
    · exact ⟨hx1, rfl⟩

theorem join_switch {cfg : Cfg} {c rid ots hint : Nat} {t : JoinTarget} {y : Session} {q : Part}
    (hl : srv.locate c = some (y, q)) (ht : (t == .id y.id) = false) (hr : srv.resolves t = true) (hn : y.lats = []) :
    srv.join cfg c rid ots t hint =
      (((srv.leave cfg y q).1.joinFresh cfg c rid ots t hint).1,
       (srv.leave cfg y q).2 ++ ((srv.leave cfg y q).1.joinFresh cfg c rid ots t hint).2.1,
       ((srv.leave cfg y q).1.joinFresh cfg c rid ots t hint).2.2) := by
  rw [Server.join_switch hl ht hr, Session.abandoned_nil hn, List.nil_append]

theorem joinFresh_of_mem (cfg : Cfg) (h : srv.WF) (hx : x ∈ srv.sessions) (c rid ots hint : Nat) :
    srv.joinFresh cfg c rid ots (.id x.id) hint =
      (srv.setSession (x.addPart c).1, joinDeliveries cfg (x.addPart c).1 (x.addPart c).2 rid ots, .ok) := by
  simp only [Server.joinFresh, findSession_of_mem h.ids_nodup hx]

theorem member_leaves_by_new (cfg : Cfg) {p : Part} (hp : p ∈ x.parts) {a : Nat}
    (ha : a ∈ (x.leave cfg p.pid).1.parts.map (·.conn)) (rid ots hint : Nat) :
    Local cfg x ⟨p.conn, .join rid ots .new, hint⟩ (x.leave cfg p.pid).1 (x.leave cfg p.pid).2 := by
  intro srv h hnl hx
  have hw' := stepReq_WF cfg h ⟨p.conn, .join rid ots .new, hint⟩
  have hstep : stepReq cfg srv ⟨p.conn, .join rid ots .new, hint⟩ = _ :=
    stepReq_of_ok (join_switch (Server.locate_member h hx hp) rfl rfl (hnl x hx))
  have hwl := Server.leave_WF cfg h hx (p := p)
  rw [hstep] at hw' ⊢
  rw [leave_member ha] at hw' hwl ⊢
  -- what the new session's join sends goes to the leaver alone
  have hu := joinFresh_frame_other cfg hwl p.conn rid ots .new hint
    (mem_setSession_self hx rfl) nofun (leaver_gone cfg (h.members x hx).conns_nodup hp)
  rw [seen_append, seen_of_mem hw' hu.1, seen_untouched hw' hu, List.append_nil]
  exact ⟨hu.1, rfl⟩

theorem join_x (cfg : Cfg) (c rid ots hint : Nat) (hc : c ∉ x.parts.map (·.conn)) :
    Local cfg x ⟨c, .join rid ots (.id x.id), hint⟩ (x.addPart c).1 (joinDeliveries cfg (x.addPart c).1 (x.addPart c).2 rid ots) := by
  intro srv h hnl hx
  have hw' := stepReq_WF cfg h ⟨c, .join rid ots (.id x.id), hint⟩
  -- the join proper starts from a server `s0` that holds `x`; leaving a previous session has sent `junk` to others
  have hstep : ∃ (s0 : Server) (junk : List Delivery), x ∈ s0.sessions ∧ (∀ d ∈ junk, d.1 ∉ (x.addPart c).1.parts.map (·.conn)) ∧
      srv.handleReq cfg c (.join rid ots (.id x.id)) hint =
        (s0.setSession (x.addPart c).1, junk ++ joinDeliveries cfg (x.addPart c).1 (x.addPart c).2 rid ots, .ok) := by
    cases hl : srv.locate c with
    | none =>
      refine ⟨srv, [], hx, fun _ hd => absurd hd List.not_mem_nil, ?_⟩
      simp only [Server.handleReq, Server.join, hl, joinFresh_of_mem cfg h hx, List.nil_append]
    | some yq =>
      obtain ⟨y, q⟩ := yq
      have hne := ne_of_located h hl hx hc
      obtain ⟨hy, hq, rfl⟩ := Server.locate_some hl
      have hu := leave_frame_other cfg h hy hx hne (p := q)
      refine ⟨_, (srv.leave cfg y q).2, hu.1, fun d hd hm => ?_, (join_switch hl ?_ ?_ (hnl y hy)).trans ?_⟩
      · refine (mem_addPart_conns.mp hm).elim (hu.2 d hd) fun e => leaver_gone cfg (h.members y hy).conns_nodup hq ?_
        rw [Server.leave_snd] at hd
        exact e ▸ leave_tgt_rest cfg y q.pid d hd
      · simpa using hne
      · simp [Server.resolves, findSession_of_mem h.ids_nodup hx]
      · rw [joinFresh_of_mem cfg (Server.leave_WF cfg h hy) hu.1]
  obtain ⟨s0, junk, hx0, hjunk, hstep⟩ := hstep
  rw [stepReq_of_ok hstep] at hw' ⊢
  have hx' : (x.addPart c).1 ∈ _ := mem_setSession_self hx0 rfl
  rw [seen_append, seen_untouched hw' ⟨hx', hjunk⟩, seen_of_mem hw' hx', List.nil_append]
  exact ⟨hx', rfl⟩

/-- a join that is refused is still a message of a participant: the module pass answers it with the modules' states -/
def refusal (cfg : Cfg) (x : Session) (c rid code : Nat) : List Delivery :=
  (c, Out.error rid code) :: (if cfg.vikja then [(c, Out.vikjaState x.actions)] else [])
    ++ (if cfg.odal then [(c, Out.odalState x.assets)] else [])

/-- **A step that concerns a session is local to it.**  A request of a member other than the anchor (not a receipt, not
    a join of another session), and a request of anybody else to join the session, take every server that holds the
    session record `x` to one that holds the same record `x'`, and show the members the same. -/
theorem insider_local (cfg : Cfg) (hn : (x.parts.map (·.pid)).Nodup) {a : Nat} (ha : a ∈ x.parts.map (·.conn)) (e : RE)
    (hea : e.c ≠ a) (hin : ((x.parts.map (·.conn)).contains e.c || isJoinTo x.id e.r) = true) (hrc : isReceipt e.r = false)
    (hj : (x.parts.map (·.conn)).contains e.c = true → joinsOther x.id e.r = false) :
    ∃ x' D, x'.id = x.id ∧ a ∈ x'.parts.map (·.conn) ∧ Local cfg x e x' D := by
  obtain ⟨c, r, hint⟩ := e
  by_cases hc : c ∈ x.parts.map (·.conn)
  · obtain ⟨p, hp, rfl⟩ := List.mem_map.mp hc
    have hne : a ≠ p.conn := fun h => hea h.symm
    have hj := hj (List.contains_iff_mem.mpr hc)
    rcases Server.handleReq_member cfg r hint with ⟨rid, rfl⟩ | ⟨rid, ots, t, rfl⟩ | ⟨_, _, _, _, rfl⟩ | hh
    · exact ⟨x, _, rfl, ha, .of_answer fun srv _ _ => rfl⟩
    · cases t with
      | new =>
        have ha' := anchor_stays hn hp ha hne cfg
        exact ⟨(x.leave cfg p.pid).1, _, rfl, ha', member_leaves_by_new cfg hp ha' rid ots hint⟩
      | id n =>
        obtain rfl : n = x.id := by simpa [joinsOther] using hj
        refine ⟨x, _, rfl, ha, .of_answer (D := refusal cfg x p.conn rid ecAlreadyJoined) fun srv hw hx => ?_⟩
        simp only [Server.handleReq, Server.join, Server.locate_member hw hx hp, BEq.rfl, ↓reduceIte, List.cons_append,
          refusal]
      | bogus =>
        refine ⟨x, _, rfl, ha, .of_answer (D := refusal cfg x p.conn rid ecNotFound) fun srv hw hx => ?_⟩
        simp only [Server.handleReq, Server.join, Server.locate_member hw hx hp, beq_iff_eq, reduceCtorEq, ↓reduceIte,
          Server.resolves, Bool.not_false, List.cons_append, refusal]
    · cases hrc
    · exact member_request cfg hn hp ha hne hh
  · obtain ⟨rid, ots, rfl⟩ := (isJoinTo_iff (r := r)).mp (by simpa [hc] using hin)
    exact ⟨(x.addPart c).1, _, rfl, mem_addPart_conns.mpr (.inl ha), join_x cfg c rid ots hint hc⟩

end

/-- **C03, noninterference at the level of handled requests.**  From two servers that hold the same session `xid` (for
    instance the same server), what the members of that session are sent along any admissible history is what they are
    sent along the history with every request that does not concern the session removed. -/
theorem C03_noninterference (cfg : Cfg) (xid a : Nat) : ∀ (es : List RE) (s1 s2 : Server), Agree xid a s1 s2 →
    NoLat s1 → NoLat s2 →
    Admissible cfg xid a s1 es → obs cfg xid s1 es = obs cfg xid s2 (proj cfg xid s1 es) := by
  intro es
  induction es with
  | nil => intro s1 s2 _ _ _ _; rfl
  | cons e es ih =>
    intro s1 s2 hA hn1 hn2 hadm
    obtain ⟨hrc, hlat, hea, hj, hrest⟩ := hadm
    obtain ⟨x, hx1, hx2, rfl, hax⟩ := hA.same
    have hw1 := stepReq_WF cfg hA.wf1 e
    simp only [obs, proj]
    cases hin : insider s1 x.id e with
    | true =>
      simp only [if_true, obs]
      rw [insider, members_of_mem hA.wf1 hx1] at hin
      rw [members_of_mem hA.wf1 hx1] at hj
      obtain ⟨x', D, hid, ha', hloc⟩ := insider_local cfg (hA.wf1.members x hx1).pids_nodup hax e hea hin hrc hj
      obtain ⟨r1, r2⟩ := hloc s1 hA.wf1 hn1 hx1, hloc s2 hA.wf2 hn2 hx2
      rw [hid] at r1 r2
      rw [r1.2, r2.2, ih _ _ ⟨hw1, stepReq_WF cfg hA.wf2 e, x', r1.1, r2.1, hid, ha'⟩ (hn1.step e hlat) (hn2.step e hlat) hrest]
    | false =>
      simp only [Bool.false_eq_true, if_false]
      have r := outsider_step cfg hA.wf1 hx1 e hin
      rw [seen_untouched hw1 r, List.nil_append]
      exact ih _ _ ⟨hw1, hA.wf2, x, r.1, hx2, rfl, hax⟩ (hn1.step e hlat) hn2 hrest

/-- the same, from one server: removing the requests that do not concern a session changes nothing of what its
    members are sent -/
theorem C03_noninterference_self (cfg : Cfg) (srv : Server) (hw : srv.WF) (hn : NoLat srv) (x : Session) (hx : x ∈ srv.sessions) (a : Nat)
    (ha : a ∈ x.parts.map (·.conn)) (es : List RE) (hadm : Admissible cfg x.id a srv es) :
    obs cfg x.id srv es = obs cfg x.id srv (proj cfg x.id srv es) :=
  C03_noninterference cfg x.id a es srv srv ⟨hw, hw, x, hx, hx, rfl, ha⟩ hn hn hadm

/-! ### the hypotheses are satisfiable and the projection does remove something -/

/-- connections 1 and 2 share session 1 (1 only listens); connection 3 creates a session of its own and works in it -/
def exampleStart : Server :=
  (stepReq {} (stepReq {} {} ⟨1, .join 1 0 .new, 0⟩).1 ⟨2, .join 2 0 (.id 1), 0⟩).1

def exampleHistory : List RE :=
  [⟨3, .join 3 0 .new, 0⟩, ⟨3, .entityAdd 4 0 false 0 none, 0⟩, ⟨2, .entityAdd 5 0 false 0 none, 0⟩,
   ⟨3, .custom 0 [] [1, 2], 0⟩, ⟨2, .custom 0 [] [7], 0⟩, ⟨4, .join 6 0 (.id 1), 0⟩, ⟨3, .ping 9, 0⟩]

example : (proj {} 1 exampleStart exampleHistory).map (·.c) = [2, 2, 4] := by decide +kernel

example : (obs {} 1 exampleStart exampleHistory).length = 9 ∧
    obs {} 1 exampleStart exampleHistory = obs {} 1 exampleStart (proj {} 1 exampleStart exampleHistory) := by decide +kernel

example : Admissible {} 1 1 exampleStart exampleHistory := by
  simp only [exampleHistory, Admissible]
  decide +kernel

example : ∀ s ∈ exampleStart.sessions, s.lats = [] := by decide +kernel

end Hagall.Props.C03Trace
