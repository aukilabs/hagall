/-
  Broadcasts: what one connection receives of a broadcast (`inbox_bcast`), how many copies (`count_bcast`,
  `count_bcastTo`), what holds of every delivery (`forall_mem_bcast`, `forall_mem_gate`); the modules' stores as
  `upsert`; the lookups of the server; and, first, the order of timestamps (`Ts.before_iff`).
-/
import Hagall.Spec.Trace
import Hagall.Spec.Relay
import Hagall.Proofs.Keyed
namespace Hagall

theorem Ts.before_iff (a b : Ts) :
    a.before b = true ↔ a.instant.1 < b.instant.1 ∨ (a.instant.1 = b.instant.1 ∧ a.instant.2 < b.instant.2) := by
  simp [Ts.before]

theorem Ts.not_before_iff (a b : Ts) :
    a.before b = false ↔ b.instant.1 ≤ a.instant.1 ∧ (a.instant.1 = b.instant.1 → b.instant.2 ≤ a.instant.2) := by
  rw [← Bool.not_eq_true, before_iff, not_or, not_and, Int.not_lt, Int.not_lt]

theorem mem_dedupNat {x : Nat} {l : List Nat} : x ∈ dedupNat l ↔ x ∈ l := by
  induction l with
  | nil => simp [dedupNat]
  | cons y ys ih =>
    simp only [dedupNat, List.mem_cons, List.mem_filter, ih]
    by_cases h : x = y <;> simp [h]

theorem nodup_dedupNat (l : List Nat) : (dedupNat l).Nodup := by
  induction l with
  | nil => simp [dedupNat]
  | cons y ys ih =>
    simp only [dedupNat, List.nodup_cons, List.mem_filter]
    refine ⟨?_, ih.sublist List.filter_sublist⟩
    simp

theorem inbox_nil (c : Nat) : inboxOf c [] = [] := rfl

theorem inbox_append (c : Nat) (a b : List Delivery) : inboxOf c (a ++ b) = inboxOf c a ++ inboxOf c b := by
  simp [inboxOf, List.filterMap_append]

theorem inbox_cons_ne {c a : Nat} (h : a ≠ c) (m : Out) (ds : List Delivery) : inboxOf c ((a, m) :: ds) = inboxOf c ds := by
  simp [inboxOf, h]

theorem inboxOf_eq (c : Nat) (ds : List Delivery) : inboxOf c ds = (ds.filter (·.1 == c)).map (·.2) := by
  unfold inboxOf
  rw [← List.filterMap_eq_map, List.filterMap_filter]
  rfl

theorem mem_inboxOf {c : Nat} {m : Out} {ds : List Delivery} : m ∈ inboxOf c ds ↔ (c, m) ∈ ds := by
  simp only [inboxOf, List.mem_filterMap, Option.ite_none_right_eq_some, Option.some.injEq, beq_iff_eq]
  exact ⟨fun ⟨d, hd, h1, h2⟩ => h1 ▸ h2 ▸ hd, fun h => ⟨_, h, rfl, rfl⟩⟩

theorem inbox_of_self_only {c c' : Nat} (h : c ≠ c') {ds : List Delivery} (hd : ∀ d ∈ ds, d.1 = c) : inboxOf c' ds = [] :=
  List.eq_nil_iff_forall_not_mem.mpr fun _ hm => h (hd _ (mem_inboxOf.mp hm)).symm

theorem inbox_map_parts (parts : List Part) (hc : (parts.map (·.conn)).Nodup) (q : Part) (hq : q ∈ parts) (f : Part → Bool) (m : Out) :
    inboxOf q.conn ((parts.filter f).map fun x => (x.conn, m)) = if f q then [m] else [] := by
  have : (parts.filter f).filter (·.conn == q.conn) = [q].filter f := by
    rw [← filter_key_of_nodup_map hc hq, List.filter_filter, List.filter_filter]
    exact List.filter_congr fun _ _ => Bool.and_comm ..
  rw [inboxOf_eq, List.filter_map, List.map_map]
  show ((parts.filter f).filter (·.conn == q.conn)).map _ = _
  rw [this]
  cases hf : f q <;> simp [hf]

/-- a broadcast with its member list written out: the form that unfolding leaves -/
theorem inbox_bcast_parts {parts : List Part} (hc : (parts.map (·.conn)).Nodup) {q : Part} (hq : q ∈ parts)
    (sender : Nat) (m : Out) (hne : q.pid ≠ sender) :
    inboxOf q.conn ((parts.filter fun x => x.pid != sender).map fun x => (x.conn, m)) = [m] := by
  rw [inbox_map_parts parts hc q hq]
  have : (q.pid != sender) = true := by simpa using hne
  simp [this]

theorem inbox_bcast {s t : Session} (ht : t.parts = s.parts) (hc : (s.parts.map (·.conn)).Nodup) {q : Part} (hq : q ∈ s.parts)
    (sender : Nat) (m : Out) (hne : q.pid ≠ sender) : inboxOf q.conn (t.bcast sender m) = [m] := by
  rw [Session.bcast, ht]
  exact inbox_bcast_parts hc hq sender m hne

theorem inbox_flatMap_bcast {parts : List Part} (hc : (parts.map (·.conn)).Nodup) {q : Part} (hq : q ∈ parts) (sender : Nat)
    (hne : q.pid ≠ sender) (f : Nat → Out) (ids : List Nat) :
    inboxOf q.conn (ids.flatMap fun i => (parts.filter fun x => x.pid != sender).map fun x => (x.conn, f i)) = ids.map f := by
  induction ids with
  | nil => rfl
  | cons i is ih =>
    simp only [List.flatMap_cons, inbox_append, List.map_cons, ih]
    rw [inbox_bcast_parts hc hq sender (f i) hne]
    rfl

@[simp] theorem countTo_nil (c : Nat) (m : Out) : countTo c m [] = 0 := rfl
@[simp] theorem countTo_append (c : Nat) (m : Out) (a b : List Delivery) :
    countTo c m (a ++ b) = countTo c m a + countTo c m b := by simp [countTo]

theorem countTo_eq_zero {c : Nat} {m : Out} {ds : List Delivery} (h : ∀ d ∈ ds, d.2 ≠ m) : countTo c m ds = 0 :=
  List.count_eq_zero.mpr fun hm => h _ hm rfl

theorem countTo_cons (c : Nat) (m : Out) (d : Delivery) (ds : List Delivery) :
    countTo c m (d :: ds) = (if d = (c, m) then 1 else 0) + countTo c m ds := by
  simp only [countTo, List.count_cons]
  by_cases h : d = (c, m) <;> simp [h, Nat.add_comm]

theorem countTo_eq_count_inbox (c : Nat) (m : Out) (ds : List Delivery) : countTo c m ds = (inboxOf c ds).count m := by
  induction ds with
  | nil => rfl
  | cons d ds ih =>
    obtain ⟨a, o⟩ := d
    unfold countTo at ih ⊢
    by_cases h : a = c <;> by_cases h' : o = m <;> simp [inboxOf, h, h', ih]

theorem count_map_conn (parts : List Part) (hc : (parts.map (·.conn)).Nodup) (q : Part) (hq : q ∈ parts)
    (f : Part → Bool) (m : Out) :
    ((parts.filter f).map fun p => (p.conn, m)).count (q.conn, m) = if f q then 1 else 0 := by
  have := countTo_eq_count_inbox q.conn m ((parts.filter f).map fun p => (p.conn, m))
  rw [inbox_map_parts parts hc q hq] at this
  rw [show List.count _ _ = _ from this]
  split <;> simp

theorem gate_open {cfg : Cfg} {f : String} (hf : cfg.flags.contains f = false) (ds : List Delivery) : gate cfg f ds = ds :=
  if_neg (ne_true_of_eq_false hf)

theorem gate_off {cfg : Cfg} (hf : cfg.flags = []) (f : String) (ds : List Delivery) : gate cfg f ds = ds :=
  gate_open (by rw [hf]; rfl) ds

theorem forall_mem_gate {cfg : Cfg} {f : String} {ds : List Delivery} {P : Delivery → Prop} (h : ∀ d ∈ ds, P d) :
    ∀ d ∈ gate cfg f ds, P d := by
  unfold gate; split
  · exact fun _ h => nomatch h
  · exact h

theorem Session.forall_mem_bcast {s : Session} {sender : Nat} {m : Out} {P : Delivery → Prop}
    (h : ∀ q ∈ s.parts, q.pid ≠ sender → P (q.conn, m)) : ∀ d ∈ s.bcast sender m, P d := by
  intro d hd
  obtain ⟨q, hq, rfl⟩ := List.mem_map.mp hd
  have := List.mem_filter.mp hq
  exact h q this.1 (by simpa using this.2)

theorem Session.mem_bcast {s : Session} {sender : Nat} {m : Out} {d : Delivery} (h : d ∈ s.bcast sender m) :
    d.2 = m ∧ ∃ q ∈ s.parts, q.pid ≠ sender ∧ d.1 = q.conn :=
  Session.forall_mem_bcast (P := fun d => d.2 = m ∧ ∃ q ∈ s.parts, q.pid ≠ sender ∧ d.1 = q.conn)
    (fun q hq hne => ⟨rfl, q, hq, hne, rfl⟩) d h

theorem Session.count_bcast (s : Session) (hc : (s.parts.map (·.conn)).Nodup) (sender : Nat) (m : Out)
    (q : Part) (hq : q ∈ s.parts) :
    countTo q.conn m (s.bcast sender m) = if q.pid ≠ sender then 1 else 0 := by
  unfold countTo Session.bcast
  rw [count_map_conn s.parts hc q hq]
  simp

theorem Session.count_bcast_ne (s : Session) (sender c : Nat) (m m' : Out) (h : m' ≠ m) :
    countTo c m' (s.bcast sender m) = 0 :=
  countTo_eq_zero fun _ hd e => h ((Session.mem_bcast hd).1 ▸ e).symm

/-- What every relaying handler delivers: one broadcast of `m` and messages that are no relays (the answers to the
    sender), in some order: `compDelete` answers after the broadcast. -/
theorem relayed_of_perm (s : Session) (hc : (s.parts.map (·.conn)).Nodup) (sender : Nat) {m : Out}
    {ds rest : List Delivery} (hp : ds.Perm (rest ++ s.bcast sender m)) (hr : NoRelay rest) (hm : m.isRelay = true := by rfl) :
    RelayedOnce s sender m ds ∧ OnlyRelay m ds := by
  have hne : ∀ d ∈ rest, d.2 ≠ m := fun d hd h => by have := hr d hd; rw [h, hm] at this; cases this
  refine ⟨⟨fun q hq => ?_, fun d hd hdm => ?_⟩, fun d hd hrel => ?_⟩
  · rw [countTo, hp.count_eq, ← countTo, countTo_append, countTo_eq_zero hne, s.count_bcast hc sender m q hq, Nat.zero_add]
  · rcases List.mem_append.mp (hp.mem_iff.mp hd) with h | h
    · exact absurd hdm (hne d h)
    · exact (Session.mem_bcast h).2
  · rcases List.mem_append.mp (hp.mem_iff.mp hd) with h | h
    · rw [hr d h] at hrel; cases hrel
    · exact (Session.mem_bcast h).1

theorem Session.bcast_congr {s t : Session} (h : t.parts = s.parts) (a : Nat) (m : Out) : t.bcast a m = s.bcast a m := by
  unfold Session.bcast; rw [h]

/-! ### the modules' stores: `setAction` and `setAsset` write one field, as an `upsert` under the store's key -/

theorem Session.setAction_parts (s : Session) (a : Action) : (s.setAction a).parts = s.parts := by
  unfold Session.setAction; split <;> rfl

theorem Session.setAsset_parts (s : Session) (a : Asset) : (s.setAsset a).parts = s.parts := by
  unfold Session.setAsset; split <;> rfl

theorem Session.setAction_eq (s : Session) (a : Action) : s.setAction a = { s with actions := (s.setAction a).actions } := by
  unfold Session.setAction; split <;> rfl

theorem Session.setAsset_eq (s : Session) (a : Asset) (n : Nat) :
    { s with assetCur := n }.setAsset a = { s with assetCur := n, assets := (s.setAsset a).assets } := by
  unfold Session.setAsset; split <;> rfl

theorem Session.setAction_upsert (s : Session) (a : Action) :
    (s.setAction a).actions = upsert (fun x => (x.eid, x.name)) s.actions a :=
  apply_ite Session.actions ..

theorem Session.setAsset_upsert (s : Session) (a : Asset) : (s.setAsset a).assets = upsert (·.eid) s.assets a :=
  apply_ite Session.assets ..

theorem Session.findPart_of_mem (s : Session) (hp : (s.parts.map (·.pid)).Nodup) {q : Part} (hq : q ∈ s.parts) :
    s.findPart q.pid = some q := find_of_nodup_map hp hq

theorem Session.findPart_some {s : Session} {i : Nat} {p : Part} (h : s.findPart i = some p) :
    p ∈ s.parts ∧ p.pid = i :=
  find_key_some h

theorem Session.mem_bcastTo {s : Session} {sender : Nat} {m : Out} {pids : List Nat} {d : Delivery}
    (h : d ∈ s.bcastTo sender m pids) :
    d.2 = m ∧ ∃ q ∈ s.parts, q.pid ≠ sender ∧ q.pid ∈ pids ∧ d.1 = q.conn := by
  obtain ⟨i, hi, hd⟩ := List.mem_filterMap.mp h
  obtain ⟨p, hf, rfl⟩ := Option.map_eq_some_iff.mp hd
  obtain ⟨hpm, rfl⟩ := Session.findPart_some hf
  have hi := List.mem_filter.mp hi
  exact ⟨rfl, p, hpm, by simpa using hi.2, mem_dedupNat.mp hi.1, rfl⟩

/-- the test "nobody is named" saves a targeted broadcast, it does not change it: a broadcast to nobody is empty -/
theorem Session.ite_isEmpty_bcastTo (s : Session) (sender : Nat) (m : Out) (pids : List Nat) :
    (if pids.isEmpty then [] else s.bcastTo sender m pids) = s.bcastTo sender m pids := by
  cases pids <;> rfl

theorem Session.forall_mem_bcastTo {s : Session} {sender : Nat} {m : Out} {pids : List Nat} {P : Delivery → Prop}
    (h : ∀ q ∈ s.parts, q.pid ≠ sender → P (q.conn, m)) : ∀ d ∈ s.bcastTo sender m pids, P d := by
  intro d hd
  obtain ⟨hm, q, hq, hne, _, hc⟩ := Session.mem_bcastTo hd
  have : d = (q.conn, m) := by rw [← hm, ← hc]
  exact this ▸ h q hq hne

theorem count_filterMap_unique {β : Type} [BEq β] [LawfulBEq β] (L : List Nat) (hL : L.Nodup) (g : Nat → Option β) (d : β) (k : Nat)
    (hg : ∀ i, g i = some d ↔ i = k) :
    (L.filterMap g).count d = if k ∈ L then 1 else 0 := by
  rw [List.count_filterMap, ← hL.count, List.count_eq_countP]
  exact List.countP_congr fun i _ => by simp [hg]

theorem Session.count_bcastTo (s : Session) (hc : (s.parts.map (·.conn)).Nodup) (hp : (s.parts.map (·.pid)).Nodup)
    (sender : Nat) (m : Out) (pids : List Nat) (q : Part) (hq : q ∈ s.parts) :
    countTo q.conn m (s.bcastTo sender m pids) = if q.pid ∈ pids ∧ q.pid ≠ sender then 1 else 0 := by
  unfold countTo Session.bcastTo
  rw [count_filterMap_unique _ ((nodup_dedupNat pids).sublist List.filter_sublist) _ (q.conn, m) q.pid]
  · simp [mem_dedupNat]
  · refine fun i => ⟨fun h => ?_, ?_⟩
    · obtain ⟨p, hf, hp⟩ := Option.map_eq_some_iff.mp h
      obtain ⟨hpm, rfl⟩ := Session.findPart_some hf
      exact congrArg Part.pid (eq_of_nodup_map hc hpm hq (congrArg Prod.fst hp))
    · rintro rfl
      rw [s.findPart_of_mem hp hq]; rfl

theorem count_flatMap_unique {β : Type} [BEq β] [LawfulBEq β] (L : List Nat) (hL : L.Nodup) (f : Nat → List β) (d : β) (k : Nat)
    (hf : ∀ i, i ≠ k → d ∉ f i) : (L.flatMap f).count d = if k ∈ L then (f k).count d else 0 := by
  induction L with
  | nil => rfl
  | cons x xs ih =>
    have ⟨hx, hxs⟩ := List.nodup_cons.mp hL
    rw [List.flatMap_cons, List.count_append, ih hxs]
    by_cases e : x = k
    · subst e; simp [hx]
    · simp [List.count_eq_zero.mpr (hf x e), Ne.symm e]

theorem Server.locate_some {srv : Server} {c : Nat} {s : Session} {p : Part} (h : srv.locate c = some (s, p)) :
    s ∈ srv.sessions ∧ p ∈ s.parts ∧ p.conn = c := by
  unfold Server.locate at h
  obtain ⟨x, hx, hf⟩ := List.exists_of_findSome?_eq_some h
  cases hp : x.parts.find? (·.conn == c) with
  | none => simp [hp] at hf
  | some q =>
    simp only [hp, Option.map_some, Option.some.injEq, Prod.mk.injEq] at hf
    obtain ⟨rfl, rfl⟩ := hf
    exact ⟨hx, find_key_some hp⟩

theorem Server.locate_none {srv : Server} {c : Nat} (h : srv.locate c = none) :
    ∀ s ∈ srv.sessions, ∀ p ∈ s.parts, p.conn ≠ c := by
  unfold Server.locate at h
  rw [List.findSome?_eq_none_iff] at h
  intro s hs p hp hc
  have := h s hs
  simp only [Option.map_eq_none_iff] at this
  rw [List.find?_eq_none] at this
  exact this p hp (by simpa using hc)

theorem Server.findSession_some {srv : Server} {n : Nat} {s : Session} (h : srv.findSession n = some s) :
    s ∈ srv.sessions ∧ s.id = n :=
  find_key_some h

end Hagall
