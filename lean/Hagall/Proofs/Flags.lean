/-
  Feature flags: filtering deliveries by flag class, and the lemmas that push the filter through
  broadcasts and gates.
-/
import Hagall.Proofs.Effect
namespace Hagall

def Cfg.withFlags (cfg : Cfg) (F : List String) : Cfg := { cfg with flags := F }

@[simp] theorem Cfg.withFlags_flags (cfg : Cfg) (F : List String) : (cfg.withFlags F).flags = F := rfl
@[simp] theorem Cfg.withFlags_vikja (cfg : Cfg) (F : List String) : (cfg.withFlags F).vikja = cfg.vikja := rfl
@[simp] theorem Cfg.withFlags_odal (cfg : Cfg) (F : List String) : (cfg.withFlags F).odal = cfg.odal := rfl
@[simp] theorem Cfg.withFlags_dagaz (cfg : Cfg) (F : List String) : (cfg.withFlags F).dagaz = cfg.dagaz := rfl
@[simp] theorem Cfg.withFlags_rcap (cfg : Cfg) (F : List String) : (cfg.withFlags F).rcap = cfg.rcap := rfl

def keepMsg (F : List String) (m : Out) : Bool :=
  match m.flagClass with
  | some f => !F.contains f
  | none => true

/-- what is left of a delivery list when the flags in `F` are set -/
def filterF (F : List String) (ds : List Delivery) : List Delivery := ds.filter fun d => keepMsg F d.2

@[simp] theorem filterF_nil (F : List String) : filterF F [] = [] := rfl
@[simp] theorem filterF_append (F : List String) (a b : List Delivery) : filterF F (a ++ b) = filterF F a ++ filterF F b := by
  simp [filterF]
theorem filterF_cons (F : List String) (d : Delivery) (ds : List Delivery) :
    filterF F (d :: ds) = if keepMsg F d.2 then d :: filterF F ds else filterF F ds := by
  simp [filterF, List.filter_cons]
@[simp] theorem filterF_empty (ds : List Delivery) : filterF [] ds = ds :=
  List.filter_eq_self.mpr fun d _ => by unfold keepMsg; split <;> rfl

/-- deliveries that the flags treat alike are all kept or all dropped -/
theorem filterF_const {F : List String} {ds : List Delivery} {b : Bool} (h : ∀ d ∈ ds, keepMsg F d.2 = b) :
    filterF F ds = if b then ds else [] := by
  cases b
  · exact List.filter_eq_nil_iff.mpr fun d hd => Bool.eq_false_iff.mp (h d hd)
  · exact List.filter_eq_self.mpr h

theorem filterF_bcast (F : List String) (s : Session) (a : Nat) (m : Out) :
    filterF F (s.bcast a m) = if keepMsg F m then s.bcast a m else [] :=
  filterF_const fun _ hd => congrArg _ (Session.mem_bcast hd).1

theorem filterF_bcastTo (F : List String) (s : Session) (a : Nat) (m : Out) (pids : List Nat) :
    filterF F (s.bcastTo a m pids) = if keepMsg F m then s.bcastTo a m pids else [] :=
  filterF_const fun _ hd => congrArg _ (Session.mem_bcastTo hd).1

theorem filterF_flatMap (F : List String) {α : Type} (l : List α) (f : α → List Delivery) :
    filterF F (l.flatMap f) = l.flatMap fun a => filterF F (f a) :=
  List.filter_flatMap

theorem filterF_opt (F : List String) (b : Prop) [Decidable b] (c : Nat) (m : Out) (h : m.flagClass = none) :
    filterF F (if b then [(c, m)] else []) = if b then [(c, m)] else [] := by
  split <;> simp [filterF_cons, keepMsg, h]

theorem filterF_unflagged (F : List String) {ds : List Delivery} (h : ∀ d ∈ ds, d.2.flagClass = none) :
    filterF F ds = ds :=
  filterF_const (b := true) fun d hd => by rw [keepMsg, h d hd]

theorem filterF_abandoned (F : List String) (s : Session) (p : Part) : filterF F (s.abandoned p) = s.abandoned p :=
  filterF_unflagged F (Answers.abandoned s p).unflagged

/-- a gate is the filter of its message class: what it lets through under the flags `F` is what the filter
    leaves of what it lets through under no flag -/
theorem gate_withFlags (cfg : Cfg) (F : List String) {f : String} {ds : List Delivery}
    (h : ∀ d ∈ ds, d.2.flagClass = some f) :
    gate (cfg.withFlags F) f ds = filterF F (gate (cfg.withFlags []) f ds) := by
  have hf : filterF F ds = if !F.contains f then ds else [] := filterF_const fun d hd => by rw [keepMsg, h d hd]
  simp [gate, hf]

end Hagall
