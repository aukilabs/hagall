/-
  What requests, joins, departures and events leave alone.  For a session: the membership part under every request,
  the core under the module pass, the absence of measurements - each read off the list of effects (`Proofs/Effect`).
  For the server: its operations by cases with the result written out (`handleReq_cases`, `handleReceipt_cases`,
  `join_cases`, `joinFresh_cases`, `step_cases`); from these the frame facts, and the lifting of what every request
  and every departure keeps to events and histories (`step_invariant`, `run_invariant`).
-/
import Hagall.Proofs.Effect
namespace Hagall

/-- for relations between the session before and after that compose and are read off the effects: `sameMembers` below,
    C10's `Grows` -/
theorem Session.handle_rel (R : Session → Session → Prop) (htrans : ∀ {a b c}, R a b → R b c → R a c)
    (cfg : Cfg) (p : Part) (r : Req) (hint : Nat)
    (eff : ∀ (t : Session) (g : Cfg → Res), t.Effect cfg p r g → R t (g cfg).1) (s : Session) :
    R s (s.handle cfg p r hint).1 :=
  Session.handle_induction (Q := fun t res => R t res.1) cfg p r hint htrans eff s

/-- the membership part of a session: untouched by every request but join / departure -/
def Session.sameMembers (s s' : Session) : Prop :=
  s'.id = s.id ∧ s'.uuid = s.uuid ∧ s'.pidCur = s.pidCur ∧ s'.parts = s.parts

theorem Session.sameMembers_trans {a b c : Session} (h1 : a.sameMembers b) (h2 : b.sameMembers c) : a.sameMembers c := by
  obtain ⟨a1, a2, a3, a4⟩ := h1; obtain ⟨b1, b2, b3, b4⟩ := h2
  exact ⟨b1.trans a1, b2.trans a2, b3.trans a3, b4.trans a4⟩

/-- modules never touch entities, components, types or subscriptions -/
def Session.sameCore (s s' : Session) : Prop :=
  s'.ents = s.ents ∧ s'.eidCur = s.eidCur ∧ s'.comps = s.comps ∧ s'.types = s.types ∧ s'.tidCur = s.tidCur ∧
  s'.subs = s.subs ∧ s'.parts = s.parts ∧ s'.lats = s.lats

theorem Session.sameCore_trans {a b c : Session} (h1 : a.sameCore b) (h2 : b.sameCore c) : a.sameCore c := by
  obtain ⟨a1, a2, a3, a4, a5, a6, a7, a8⟩ := h1; obtain ⟨b1, b2, b3, b4, b5, b6, b7, b8⟩ := h2
  exact ⟨b1.trans a1, b2.trans a2, b3.trans a3, b4.trans a4, b5.trans a5, b6.trans a6, b7.trans a7, b8.trans a8⟩

theorem Session.SideEffect.sameCore {cfg : Cfg} {s : Session} {p : Part} {r : Req} {res : Res} (h : s.SideEffect cfg p r res) :
    s.sameCore res.1 := by
  cases h <;> exact ⟨rfl, rfl, rfl, rfl, rfl, rfl, rfl, rfl⟩

theorem Session.SideEffect.sameMembers {cfg : Cfg} {s : Session} {p : Part} {r : Req} {res : Res} (h : s.SideEffect cfg p r res) :
    s.sameMembers res.1 := by
  cases h <;> exact ⟨rfl, rfl, rfl, rfl⟩

theorem Session.Effect.sameMembers {cfg : Cfg} {s : Session} {p : Part} {r : Req} {g : Cfg → Res}
    (h : s.Effect cfg p r g) : s.sameMembers (g cfg).1 := by
  cases h
  case side h => exact h.sameMembers
  all_goals exact ⟨rfl, rfl, rfl, rfl⟩

theorem Session.handle_sameMembers (cfg : Cfg) (s : Session) (p : Part) (r : Req) (hint : Nat) :
    s.sameMembers (s.handle cfg p r hint).1 :=
  Session.handle_rel Session.sameMembers Session.sameMembers_trans cfg p r hint (fun _ _ h => h.sameMembers) s

theorem Session.modules_sameCore (cfg : Cfg) (p : Part) (r : Req) (s : Session) : s.sameCore (s.modules cfg p r).1 :=
  Session.modules_induction (Q := fun t res => t.sameCore res.1) cfg p r Session.sameCore_trans
    (fun _ _ h => h.sameCore) s

/-! ### no signed latency measurement anywhere: kept by every request that does not start one -/

def Req.isLatency : Req → Bool
  | .signedLatency .. => true
  | _ => false

theorem Session.latOf_nil {s : Session} (h : s.lats = []) (pid : Nat) : s.latOf pid = {} := by
  simp [Session.latOf, h]

theorem Session.abandoned_nil {s : Session} (h : s.lats = []) (p : Part) : s.abandoned p = [] := by
  simp [Session.abandoned, Session.latOf_nil h]

/-- without a measurement no ping is open, so an answer to one is refused; and only a signed latency request
    starts a measurement -/
theorem Session.handle_lats_nil (cfg : Cfg) (p : Part) (r : Req) (hint : Nat) (s : Session) (h : s.lats = [])
    (hr : r.isLatency = false) : (s.handle cfg p r hint).1.lats = [] := by
  refine Session.handle_induction (Q := fun t res => t.lats = [] → res.1.lats = []) cfg p r hint
    (fun h1 h2 h => h2 (h1 h)) (fun t g he ht => ?_) s h
  cases he
  case side h => exact h.sameCore.2.2.2.2.2.2.2.trans ht
  case pinged ho _ => simp [Session.latOf_nil ht] at ho
  case measured => cases hr
  all_goals exact ht

theorem Session.leave_lats_nil {cfg : Cfg} {s : Session} {pid : Nat} (h : s.lats = []) : (s.leave cfg pid).1.lats = [] := by
  show s.lats.filter (·.1 != pid) = []
  rw [h, List.filter_nil]

theorem Server.handleReceipt_cases {motive : SRes → Prop} (cfg : Cfg) (srv : Server) (c rid : Nat) (rc h sg : Bytes)
    (refused : ∀ code, motive (srv, [(c, .error rid code)], .ok))
    (queued : srv.receipts.length < cfg.rcap →
      motive ({ srv with receipts := srv.receipts ++ [⟨rc, h, sg⟩] }, [(c, .receiptResp rid)], .ok)) :
    motive (srv.handleReceipt cfg c rid rc h sg) := by
  unfold Server.handleReceipt
  refine iteInduction (motive := motive) (fun _ => refused _) fun _ => ?_
  exact iteInduction (motive := motive) queued fun _ => refused _

theorem Server.handleReq_cases {motive : SRes → Prop} (cfg : Cfg) (srv : Server) (c : Nat) (r : Req) (hint : Nat)
    (ping : ∀ rid, r = .ping rid → motive (srv, [(c, .pingResp rid)], .ok))
    (join : ∀ rid ots t, r = .join rid ots t → motive (srv.join cfg c rid ots t hint))
    (refused : ∀ rid rc h sg code, r = .receipt rid rc h sg → motive (srv, [(c, .error rid code)], .ok))
    (queued : ∀ rid rc h sg, r = .receipt rid rc h sg → srv.receipts.length < cfg.rcap →
      motive ({ srv with receipts := srv.receipts ++ [⟨rc, h, sg⟩] }, [(c, .receiptResp rid)], .ok))
    (outside : srv.locate c = none → motive (srv, (notJoined c r).1, (notJoined c r).2))
    (inside : ∀ s p, srv.locate c = some (s, p) →
      motive (srv.setSession (s.handle cfg p r hint).1, (s.handle cfg p r hint).2.1, (s.handle cfg p r hint).2.2)) :
    motive (srv.handleReq cfg c r hint) := by
  unfold Server.handleReq
  split
  next rid => exact ping rid rfl
  next rid ots t => exact join rid ots t rfl
  next rid rc h sg =>
    exact Server.handleReceipt_cases cfg srv c rid rc h sg (fun code => refused rid rc h sg code rfl) (queued rid rc h sg rfl)
  next =>
    cases hl : srv.locate c with
    | none => exact outside hl
    | some sp =>
      simp only []
      exact inside sp.1 sp.2 hl

/-- The `inside` case of `handleReq_cases`, for every server and connection.  `handleReq_member` makes the split of
    `handleReq_cases` on the request alone, so that what it yields serves for all the servers that hold the session at
    once (`C03_local`, C03Trace's `member_request`: the same request meets two servers). -/
def Server.Handled (cfg : Cfg) (r : Req) (hint : Nat) : Prop :=
  ∀ (srv : Server) (c : Nat) (x : Session) (p : Part), srv.locate c = some (x, p) → srv.handleReq cfg c r hint =
    (srv.setSession (x.handle cfg p r hint).1, (x.handle cfg p r hint).2.1, (x.handle cfg p r hint).2.2)

theorem Server.handleReq_member (cfg : Cfg) (r : Req) (hint : Nat) :
    (∃ rid, r = .ping rid) ∨ (∃ rid ots t, r = .join rid ots t) ∨ (∃ rid rc h sg, r = .receipt rid rc h sg) ∨
    Server.Handled cfg r hint := by
  unfold Server.Handled Server.handleReq
  split
  · exact .inl ⟨_, rfl⟩
  · exact .inr (.inl ⟨_, _, _, rfl⟩)
  · exact .inr (.inr (.inl ⟨_, _, _, _, rfl⟩))
  · exact .inr (.inr (.inr fun srv c x p hl => by rw [hl]))

theorem Server.joinFresh_cases {motive : SRes → Prop} (cfg : Cfg) (srv : Server) (c rid ots : Nat) (t : JoinTarget) (hint : Nat)
    (refused : srv.resolves t = false → motive (srv, [(c, .error rid ecNotFound)], .ok))
    (existing : ∀ s, t = .id s.id → s ∈ srv.sessions → srv.findSession s.id = some s →
      motive (srv.setSession (s.addPart c).1, joinDeliveries cfg (s.addPart c).1 (s.addPart c).2 rid ots, .ok))
    (new : t = .new →
      let s : Session := { id := (srv.ids.new hint).1, uuid := srv.uuidCur + 1 }
      motive ({ srv with ids := (srv.ids.new hint).2, uuidCur := srv.uuidCur + 1, sessions := srv.sessions ++ [(s.addPart c).1],
                         gauge := srv.gauge + 1 },
              joinDeliveries cfg (s.addPart c).1 (s.addPart c).2 rid ots, .ok)) :
    motive (srv.joinFresh cfg c rid ots t hint) := by
  unfold Server.joinFresh
  cases t with
  | bogus => exact refused rfl
  | id n =>
    simp only []
    cases hf : srv.findSession n with
    | none => exact refused (by simp [Server.resolves, hf])
    | some s =>
      obtain ⟨hs, rfl⟩ := Server.findSession_some hf
      exact existing s rfl hs hf
  | new => exact new rfl

/-- what a participant whose join is refused is sent: the error, and the module states the module pass hands out -/
theorem Server.join_refused_answers (cfg : Cfg) (c rid : Nat) {code : Nat} (s : Session) :
    Answers c ((c, Out.error rid code) :: (if cfg.vikja then [(c, Out.vikjaState s.actions)] else []) ++
      (if cfg.odal then [(c, Out.odalState s.assets)] else [])) := by
  refine .cons rfl (.append ?_ ?_) <;> split <;> first | exact .one rfl | exact .nil

theorem Server.join_cases {motive : SRes → Prop} (cfg : Cfg) (srv : Server) (c rid ots : Nat) (t : JoinTarget) (hint : Nat)
    (fresh : srv.locate c = none → motive (srv.joinFresh cfg c rid ots t hint))
    (refused : ∀ ds, Answers c ds → motive (srv, ds, .ok))
    (switch : ∀ s p, srv.locate c = some (s, p) → t ≠ .id s.id →
      motive (((srv.leave cfg s p).1.joinFresh cfg c rid ots t hint).1,
        s.abandoned p ++ (srv.leave cfg s p).2 ++ ((srv.leave cfg s p).1.joinFresh cfg c rid ots t hint).2.1,
        ((srv.leave cfg s p).1.joinFresh cfg c rid ots t hint).2.2)) :
    motive (srv.join cfg c rid ots t hint) := by
  unfold Server.join
  cases hl : srv.locate c with
  | none => exact fresh hl
  | some sp =>
    refine iteInduction (motive := motive) (fun _ => refused _ (Server.join_refused_answers cfg c rid sp.1)) fun hne => ?_
    refine iteInduction (motive := motive) (fun _ => refused _ (Server.join_refused_answers cfg c rid sp.1)) fun _ => ?_
    simp only []
    exact switch sp.1 sp.2 hl (by simpa using hne)

theorem Server.join_switch {cfg : Cfg} {srv : Server} {c rid ots hint : Nat} {t : JoinTarget} {s : Session} {p : Part}
    (hl : srv.locate c = some (s, p)) (ht : (t == .id s.id) = false) (hr : srv.resolves t = true) :
    srv.join cfg c rid ots t hint =
      (((srv.leave cfg s p).1.joinFresh cfg c rid ots t hint).1,
       s.abandoned p ++ (srv.leave cfg s p).2 ++ ((srv.leave cfg s p).1.joinFresh cfg c rid ots t hint).2.1,
       ((srv.leave cfg s p).1.joinFresh cfg c rid ots t hint).2.2) := by
  simp only [Server.join, hl, ht, hr, Bool.false_eq_true, if_false, Bool.not_true]

/-- the part of the server that joins and departures leave alone -/
def Server.sameTransport (srv srv' : Server) : Prop :=
  srv'.conns = srv.conns ∧ srv'.ticks = srv.ticks ∧ srv'.receipts = srv.receipts ∧ srv'.forwarded = srv.forwarded

theorem Server.sameTransport.trans {a b c : Server} (h1 : a.sameTransport b) (h2 : b.sameTransport c) : a.sameTransport c :=
  ⟨h2.1.trans h1.1, h2.2.1.trans h1.2.1, h2.2.2.1.trans h1.2.2.1, h2.2.2.2.trans h1.2.2.2⟩

theorem Server.leave_transport (cfg : Cfg) (srv : Server) (s : Session) (p : Part) : srv.sameTransport (srv.leave cfg s p).1 := by
  unfold Server.leave
  simp only []
  split <;> exact ⟨rfl, rfl, rfl, rfl⟩

theorem Server.joinFresh_transport (cfg : Cfg) (srv : Server) (c rid ots : Nat) (t : JoinTarget) (hint : Nat) :
    srv.sameTransport (srv.joinFresh cfg c rid ots t hint).1 :=
  Server.joinFresh_cases (motive := fun res => srv.sameTransport res.1) cfg srv c rid ots t hint
    (fun _ => ⟨rfl, rfl, rfl, rfl⟩) (fun _ _ _ _ => ⟨rfl, rfl, rfl, rfl⟩) (fun _ => ⟨rfl, rfl, rfl, rfl⟩)

theorem Server.join_transport (cfg : Cfg) (srv : Server) (c rid ots : Nat) (t : JoinTarget) (hint : Nat) :
    srv.sameTransport (srv.join cfg c rid ots t hint).1 :=
  Server.join_cases (motive := fun res => srv.sameTransport res.1) cfg srv c rid ots t hint
    (fun _ => srv.joinFresh_transport cfg c rid ots t hint) (fun _ _ => ⟨rfl, rfl, rfl, rfl⟩)
    (fun s p _ _ => (srv.leave_transport cfg s p).trans (Server.joinFresh_transport cfg _ c rid ots t hint))

theorem Server.handleReq_conns (cfg : Cfg) (srv : Server) (c : Nat) (r : Req) (hint : Nat) :
    (srv.handleReq cfg c r hint).1.conns = srv.conns ∧ (srv.handleReq cfg c r hint).1.ticks = srv.ticks := by
  refine Server.handleReq_cases (motive := fun res => res.1.conns = srv.conns ∧ res.1.ticks = srv.ticks) cfg srv c r hint
    (fun _ _ => ⟨rfl, rfl⟩) (fun rid ots t _ => ?_) (fun _ _ _ _ _ _ => ⟨rfl, rfl⟩) (fun _ _ _ _ _ _ => ⟨rfl, rfl⟩)
    (fun _ => ⟨rfl, rfl⟩) (fun _ _ _ => ⟨rfl, rfl⟩)
  exact ⟨(srv.join_transport cfg c rid ots t hint).1, (srv.join_transport cfg c rid ots t hint).2.1⟩

theorem Server.disconnect_transport (cfg : Cfg) (srv : Server) (c : Nat) :
    (srv.disconnect cfg c).1.conns = srv.conns.filter (·.id != c) ∧ (srv.disconnect cfg c).1.ticks = srv.ticks ∧
    (srv.disconnect cfg c).1.receipts = srv.receipts ∧ (srv.disconnect cfg c).1.forwarded = srv.forwarded := by
  unfold Server.disconnect
  cases srv.locate c with
  | none => exact ⟨rfl, rfl, rfl, rfl⟩
  | some sp =>
    have ⟨h1, h2, h3, h4⟩ := srv.leave_transport cfg sp.1 sp.2
    exact ⟨congrArg (List.filter _) h1, h2, h3, h4⟩

/-- `Server.leave` and `run` with their pairs taken apart by projections -/
theorem Server.leave_fst (cfg : Cfg) (srv : Server) (s : Session) (p : Part) :
    (srv.leave cfg s p).1 =
      if (s.leave cfg p.pid).1.parts.isEmpty then
        { srv with sessions := srv.sessions.filter (·.id != s.id), ids := srv.ids.reuse s.id, gauge := srv.gauge - 1 }
      else srv.setSession (s.leave cfg p.pid).1 := by
  unfold Server.leave; simp only []; split <;> rfl

theorem Server.leave_snd (cfg : Cfg) (srv : Server) (s : Session) (p : Part) :
    (srv.leave cfg s p).2 = (s.leave cfg p.pid).2 := by
  unfold Server.leave; simp only []; split <;> rfl

theorem run_cons (cfg : Cfg) (srv : Server) (e : Event) (es : List Event) :
    run cfg srv (e :: es) =
      ((run cfg (step cfg srv e).1 es).1, (step cfg srv e).2.1 ++ (run cfg (step cfg srv e).1 es).2) := rfl

/-! ### a predicate `I` of every registered session is kept by the server's operations if `handle`, `leave` and
  `addPart` keep it and a new session has it (`Server.AllInv`, C03Trace's `NoLat`) -/

section sessions
variable {I : Session → Prop} {cfg : Cfg} {srv : Server}

theorem Server.setSession_sessions (h : ∀ s ∈ srv.sessions, I s) {s' : Session} (hs' : I s') :
    ∀ s ∈ (srv.setSession s').sessions, I s :=
  forall_mem_replace_key (f := Session.id) (fun b hb _ => h b hb) hs'

theorem Server.leave_sessions (hl : ∀ s pid, I s → I (s.leave cfg pid).1) (h : ∀ s ∈ srv.sessions, I s)
    {s : Session} (hs : s ∈ srv.sessions) (p : Part) : ∀ x ∈ (srv.leave cfg s p).1.sessions, I x := by
  rw [Server.leave_fst]
  split
  · exact fun x hx => h x (List.mem_filter.mp hx).1
  · exact Server.setSession_sessions h (hl s p.pid (h s hs))

theorem Server.joinFresh_sessions (ha : ∀ s c, I s → I (s.addPart c).1) (hn : ∀ id uuid, I { id, uuid })
    (h : ∀ s ∈ srv.sessions, I s) (c rid ots : Nat) (t : JoinTarget) (hint : Nat) :
    ∀ x ∈ (srv.joinFresh cfg c rid ots t hint).1.sessions, I x :=
  Server.joinFresh_cases (motive := fun res => ∀ x ∈ res.1.sessions, I x) cfg srv c rid ots t hint (fun _ => h)
    (fun s _ hs _ => Server.setSession_sessions h (ha s c (h s hs))) (fun _ => forall_mem_concat h (ha _ c (hn _ _)))

theorem Server.join_sessions (hl : ∀ s pid, I s → I (s.leave cfg pid).1) (ha : ∀ s c, I s → I (s.addPart c).1)
    (hn : ∀ id uuid, I { id, uuid }) (h : ∀ s ∈ srv.sessions, I s) (c rid ots : Nat) (t : JoinTarget) (hint : Nat) :
    ∀ x ∈ (srv.join cfg c rid ots t hint).1.sessions, I x :=
  Server.join_cases (motive := fun res => ∀ x ∈ res.1.sessions, I x) cfg srv c rid ots t hint
    (fun _ => Server.joinFresh_sessions ha hn h c rid ots t hint) (fun _ _ => h)
    (fun _ p hloc _ => Server.joinFresh_sessions ha hn (Server.leave_sessions hl h (Server.locate_some hloc).1 p) c rid ots t hint)

theorem Server.handleReq_sessions {c : Nat} {r : Req} {hint : Nat} (hh : ∀ s p, I s → I (s.handle cfg p r hint).1)
    (hl : ∀ s pid, I s → I (s.leave cfg pid).1) (ha : ∀ s c, I s → I (s.addPart c).1) (hn : ∀ id uuid, I { id, uuid })
    (h : ∀ s ∈ srv.sessions, I s) : ∀ x ∈ (srv.handleReq cfg c r hint).1.sessions, I x :=
  Server.handleReq_cases (motive := fun res => ∀ x ∈ res.1.sessions, I x) cfg srv c r hint (fun _ _ => h)
    (fun rid ots t _ => Server.join_sessions hl ha hn h c rid ots t hint)
    (fun _ _ _ _ _ _ => h) (fun _ _ _ _ _ _ => h) (fun _ => h) (fun s p hloc => Server.setSession_sessions h (hh s p (h s (Server.locate_some hloc).1)))

theorem Server.disconnect_sessions (hl : ∀ s pid, I s → I (s.leave cfg pid).1) (h : ∀ s ∈ srv.sessions, I s) (c : Nat) :
    ∀ x ∈ (srv.disconnect cfg c).1.sessions, I x := by
  unfold Server.disconnect
  cases hloc : srv.locate c with
  | none => exact h
  | some sp => exact Server.leave_sessions hl h (Server.locate_some hloc).1 sp.2

end sessions

theorem Server.beforeDispatch_fst (srv : Server) (k : Conn) (r : Req) :
    (srv.beforeDispatch k r).1 = { srv with ticks := match r with | .join .. => srv.ticks + 1 | _ => srv.ticks } := by
  cases r <;> rfl

/-- An event, case by case.  It touches connections and the tick count only (a new connection, a message queued, a
    frame, an event that finds nothing to do), or it moves the queued receipts on; it is a disconnection (asked for,
    or because the message received cannot be queued); or a handler takes a request from its queue: `handleMessage`,
    followed, by its outcome, by nothing, by the disconnection, or (a panic) by the end of the connection alone. -/
theorem step_cases {motive : SRes → Prop} (cfg : Cfg) (srv : Server) (e : Event)
    (sched : ∀ conns ticks, motive ({ srv with conns := conns, ticks := ticks }, [], .ok))
    (drain : motive ({ srv with forwarded := srv.forwarded ++ srv.receipts, receipts := [] }, [], .ok))
    (disc : ∀ c ticks o, (e = .disconnect c ∨ ∃ r, e = .recv c r) →
      motive (({ srv with ticks := ticks }.disconnect cfg c).1, ({ srv with ticks := ticks }.disconnect cfg c).2, o))
    (handle : ∀ c pick hint k r k' srv' ds o, e = .handle c pick hint → srv.findConn c = some k → k.pop pick = some (r, k') →
      (srv.setConn k').handleReq cfg c r hint = (srv', ds, o) →
      motive (match o with
        | .ok => (srv', ds, .ok)
        | .connError => ((srv'.disconnect cfg c).1, ds ++ (srv'.disconnect cfg c).2, .connError)
        | .panic site => ({ srv' with conns := srv'.conns.filter (·.id != c) }, ds, .panic site))) :
    motive (step cfg srv e) := by
  cases e with
  | connect c => dsimp only [step]; split; exact sched srv.conns srv.ticks; exact sched _ srv.ticks
  | recv c r =>
    dsimp only [step]
    split
    · exact sched srv.conns srv.ticks
    · rw [Server.beforeDispatch_fst]
      split
      · exact sched _ _
      · exact disc c _ _ (.inr ⟨r, rfl⟩)
  | handle c pick hint =>
    dsimp only [step]
    split
    · exact sched srv.conns srv.ticks
    next k hf =>
      split
      · exact sched srv.conns srv.ticks
      next r k' hp =>
        rcases hh : (srv.setConn k').handleReq cfg c r hint with ⟨srv', ds, o⟩
        exact handle c pick hint k r k' srv' ds o rfl hf hp hh
  | tick sid => dsimp only [step]; split; exact sched srv.conns srv.ticks; exact sched _ _
  | disconnect c => dsimp only [step]; exact disc c srv.ticks .ok (.inl rfl)
  | drain => exact drain

/-- An event changes the registry through a request or a departure only: a property of the server that does not
    look at connections, schedulers, ticks and receipts (`frame`) and that every request and every departure keep
    is kept by every event. -/
theorem step_invariant {P : Server → Prop} (cfg : Cfg)
    (frame : ∀ {a b : Server}, P a → b.sessions = a.sessions → b.ids = a.ids → b.gauge = a.gauge → b.uuidCur = a.uuidCur → P b)
    (req : ∀ {srv : Server} (c : Nat) (r : Req) (hint : Nat), P srv → P (srv.handleReq cfg c r hint).1)
    (disc : ∀ {srv : Server} (c : Nat), P srv → P (srv.disconnect cfg c).1)
    {srv : Server} (h : P srv) (e : Event) : P (step cfg srv e).1 := by
  refine step_cases (motive := fun res => P res.1) cfg srv e (fun _ _ => frame h rfl rfl rfl rfl) (frame h rfl rfl rfl rfl)
    (fun c _ _ _ => disc c (frame h rfl rfl rfl rfl)) (fun c _ hint _ r k' srv' ds o _ _ _ hh => ?_)
  have h1 := req c r hint (frame (b := srv.setConn k') h rfl rfl rfl rfl)
  rw [hh] at h1
  cases o
  · exact h1
  · exact disc c h1
  · exact frame h1 rfl rfl rfl rfl

theorem run_invariant {P : Server → Prop} (cfg : Cfg) (hstep : ∀ {srv : Server} (e : Event), P srv → P (step cfg srv e).1)
    (es : List Event) {srv : Server} (h : P srv) : P (run cfg srv es).1 := by
  induction es generalizing srv with
  | nil => exact h
  | cons e es ih => exact ih (hstep e h)

end Hagall
