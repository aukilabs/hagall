/-
  Invariant of the concurrent registry model (`Model/Registry.lean`), preserved by every critical section of every
  connection: the proof obligations behind `Props/C07Conc.lean`.

  A critical section moves its own handler on and changes at most one shared thing: nothing (`Inv.retarget`), the
  participants of one session object (`Inv.move`), the id source (`Inv.takeId`), the registry (`Inv.unreg_ok`,
  `Inv.register_ok`).  Each of these lemmas builds the new invariant as `{ h with .. }` from the old one: the clauses
  listed are the ones the update touches, the others hold by unfolding the update.
-/
import Hagall.Model.Registry
import Hagall.Proofs.Keyed
namespace Hagall.Registry

def Then.objs : Then → List Nat
  | .stop => []
  | .into o => [o]
  | .create => []

/-- the session objects a connection's participant is in, as a function of where its handler stands -/
def held : PC → List Nat
  | .idle cur => cur.toList
  | .add cur _ => cur.toList
  | .rem o k => o :: k.objs
  | .unreg _ k => k.objs
  | .newid => []
  | .register _ => []

structure Inv (s : St) : Prop where
  regNodup : (s.reg.map Prod.fst).Nodup
  regOk : ∀ i o, (i, o) ∈ s.reg → o < s.n ∧ (s.obj o).id = i
  alive : ∀ o, o < s.n → (s.obj o).ended = false → ((s.obj o).id, o) ∈ s.reg ∧ (s.obj o).members ≠ []
  -- an ended object stays registered exactly while its single unregisterer (`unregUnique`) stands at `.unreg`: while
  -- it is registered somebody is about to remove it, and `SessionStore.Remove` finds the entry it takes off the gauge
  dead : ∀ o, o < s.n → (s.obj o).ended = true →
    (s.obj o).members = [] ∧ (((s.obj o).id, o) ∈ s.reg ↔ ∃ c k, s.pc c = .unreg o k)
  unregOk : ∀ c o k, s.pc c = .unreg o k → o < s.n ∧ (s.obj o).ended = true
  unregUnique : ∀ c c' o k k', s.pc c = .unreg o k → s.pc c' = .unreg o k' → c = c'
  mem : ∀ c o, o < s.n → (c ∈ (s.obj o).members ↔ o ∈ held (s.pc c))
  heldLive : ∀ c o, o ∈ held (s.pc c) → o < s.n
  heldNodup : ∀ c, (held (s.pc c)).Nodup
  addOk : ∀ c cur o, s.pc c = .add cur o → o < s.n ∧ o ∉ cur.toList
  -- a number is in one place at most: the registry, the hands of the one handler about to register it, the pool
  regIds : ∀ i o, (i, o) ∈ s.reg → i ≤ s.cur ∧ i ∉ s.pool
  pend : ∀ c i, s.pc c = .register i → i ≤ s.cur ∧ i ∉ s.pool ∧ i ∉ s.reg.map Prod.fst
  pendUnique : ∀ c c' i, s.pc c = .register i → s.pc c' = .register i → c = c'
  poolLe : ∀ i, i ∈ s.pool → i ≤ s.cur
  gauge : s.gauge = s.reg.length

@[simp] theorem setPc_self (s : St) (c : Nat) (p : PC) : (s.setPc c p).pc c = p := by simp [St.setPc]
theorem setPc_ne (s : St) {c c' : Nat} (p : PC) (h : c' ≠ c) : (s.setPc c p).pc c' = s.pc c' := by simp [St.setPc, h]
@[simp] theorem setPc_n (s : St) (c : Nat) (p : PC) : (s.setPc c p).n = s.n := rfl
@[simp] theorem setPc_obj (s : St) (c : Nat) (p : PC) : (s.setPc c p).obj = s.obj := rfl
@[simp] theorem setPc_reg (s : St) (c : Nat) (p : PC) : (s.setPc c p).reg = s.reg := rfl
@[simp] theorem setPc_pool (s : St) (c : Nat) (p : PC) : (s.setPc c p).pool = s.pool := rfl
@[simp] theorem setPc_cur (s : St) (c : Nat) (p : PC) : (s.setPc c p).cur = s.cur := rfl
@[simp] theorem setPc_gauge (s : St) (c : Nat) (p : PC) : (s.setPc c p).gauge = s.gauge := rfl
@[simp] theorem setObj_self (s : St) (o : Nat) (v : Obj) : (s.setObj o v).obj o = v := by simp [St.setObj]
theorem setObj_ne (s : St) {o o' : Nat} (v : Obj) (h : o' ≠ o) : (s.setObj o v).obj o' = s.obj o' := by simp [St.setObj, h]
@[simp] theorem setObj_n (s : St) (o : Nat) (v : Obj) : (s.setObj o v).n = s.n := rfl
@[simp] theorem setObj_pc (s : St) (o : Nat) (v : Obj) : (s.setObj o v).pc = s.pc := rfl
@[simp] theorem setObj_reg (s : St) (o : Nat) (v : Obj) : (s.setObj o v).reg = s.reg := rfl
@[simp] theorem setObj_pool (s : St) (o : Nat) (v : Obj) : (s.setObj o v).pool = s.pool := rfl
@[simp] theorem setObj_cur (s : St) (o : Nat) (v : Obj) : (s.setObj o v).cur = s.cur := rfl
@[simp] theorem setObj_gauge (s : St) (o : Nat) (v : Obj) : (s.setObj o v).gauge = s.gauge := rfl

@[simp] theorem dropReg_n (s : St) (i : Nat) : (s.dropReg i).n = s.n := rfl
@[simp] theorem dropReg_obj (s : St) (i : Nat) : (s.dropReg i).obj = s.obj := rfl
@[simp] theorem dropReg_pc (s : St) (i : Nat) : (s.dropReg i).pc = s.pc := rfl
@[simp] theorem dropReg_cur (s : St) (i : Nat) : (s.dropReg i).cur = s.cur := rfl
theorem dropReg_reg (s : St) (i : Nat) : (s.dropReg i).reg = s.reg.filter (fun (p : Nat × Nat) => p.1 != i) := rfl
theorem dropReg_pool (s : St) (i : Nat) : (s.dropReg i).pool = i :: s.pool.filter (· != i) := rfl
theorem dropReg_gauge (s : St) (i : Nat) : (s.dropReg i).gauge = s.gauge - 1 := rfl

@[simp] theorem takeId_n (s : St) (i : Nat) : (s.takeId i).n = s.n := rfl
@[simp] theorem takeId_obj (s : St) (i : Nat) : (s.takeId i).obj = s.obj := rfl
@[simp] theorem takeId_pc (s : St) (i : Nat) : (s.takeId i).pc = s.pc := rfl
@[simp] theorem takeId_reg (s : St) (i : Nat) : (s.takeId i).reg = s.reg := rfl
@[simp] theorem takeId_gauge (s : St) (i : Nat) : (s.takeId i).gauge = s.gauge := rfl
theorem takeId_pool (s : St) (i : Nat) : (s.takeId i).pool = s.pool.filter (· != i) := rfl
theorem takeId_cur (s : St) (i : Nat) : (s.takeId i).cur = if i ∈ s.pool then s.cur else s.cur + 1 := rfl

@[simp] theorem addReg_n (s : St) (i c : Nat) : (s.addReg i c).n = s.n + 1 := rfl
@[simp] theorem addReg_pc (s : St) (i c : Nat) : (s.addReg i c).pc = s.pc := rfl
@[simp] theorem addReg_pool (s : St) (i c : Nat) : (s.addReg i c).pool = s.pool := rfl
@[simp] theorem addReg_cur (s : St) (i c : Nat) : (s.addReg i c).cur = s.cur := rfl
theorem addReg_reg (s : St) (i c : Nat) : (s.addReg i c).reg = (i, s.n) :: s.reg.filter (fun (p : Nat × Nat) => p.1 != i) := rfl
theorem addReg_gauge (s : St) (i c : Nat) : (s.addReg i c).gauge = s.gauge + 1 := rfl
theorem addReg_obj (s : St) (i c o : Nat) :
    (s.addReg i c).obj o = if o = s.n then { id := i, members := [c], ended := false } else s.obj o := rfl

theorem setPc_pc (s : St) (c : Nat) (p : PC) (c' : Nat) : (s.setPc c p).pc c' = if c' = c then p else s.pc c' := rfl

theorem setPc_eq {s : St} {c c' : Nat} {p q : PC} : (s.setPc c p).pc c' = q ↔ c' = c ∧ p = q ∨ c' ≠ c ∧ s.pc c' = q := by
  rw [setPc_pc]; split <;> simp [*]

/-- whatever is read off the handlers' positions stays the same when the one that moves goes to a position that reads the
    same: the sessions it is in (`f := held`), whether it stands at `q` (`setPc_eq_iff`) -/
theorem setPc_congr {α : Sort _} (f : PC → α) {s : St} {c : Nat} {p : PC} (h : f p = f (s.pc c)) (c' : Nat) :
    f ((s.setPc c p).pc c') = f (s.pc c') := by
  rw [setPc_pc]; split
  · next e => rw [h, e]
  · rfl

theorem setPc_eq_iff {s : St} {c : Nat} {p₀ p q : PC} (hpc : s.pc c = p₀) (hold : p₀ ≠ q) (hnew : p ≠ q) (c' : Nat) :
    (s.setPc c p).pc c' = q ↔ s.pc c' = q :=
  have neither : (p = q) = (s.pc c = q) := (eq_false hnew).trans (eq_false (hpc ▸ hold)).symm
  Iff.of_eq (setPc_congr (· = q) neither c')

@[simp] theorem held_next (k : Then) : held k.next = k.objs := by cases k <;> rfl

theorem next_ne_unreg (k : Then) (o : Nat) (k' : Then) : k.next ≠ .unreg o k' := by cases k <;> simp [Then.next]
theorem next_ne_register (k : Then) (i : Nat) : k.next ≠ .register i := by cases k <;> simp [Then.next]
theorem next_ne_add (k : Then) (cur : Option Nat) (o : Nat) : k.next ≠ .add cur o := by cases k <;> simp [Then.next]

theorem lookup_eq_some {reg : List (Nat × Nat)} (hn : (reg.map Prod.fst).Nodup) {i o : Nat} :
    lookup reg i = some o ↔ (i, o) ∈ reg := by
  refine Option.map_eq_some_iff.trans ⟨fun ⟨q, hf, e⟩ => ?_, fun h => ⟨_, (find_eq_some_of_nodup_map hn).mpr ⟨h, rfl⟩, rfl⟩⟩
  have := (find_eq_some_of_nodup_map (f := Prod.fst) hn).mp hf
  exact e ▸ this.2 ▸ this.1

theorem pick_spec (pool : List Nat) (cur hint : Nat) :
    pick pool cur hint ∈ pool ∨ (pool = [] ∧ pick pool cur hint = cur + 1) := by
  unfold pick
  split
  · next hm => exact Or.inl hm
  · cases pool with
    | nil => exact Or.inr ⟨rfl, rfl⟩
    | cons x xs => exact Or.inl (by simp)

theorem Inv.init : Inv {} := by
  constructor <;> simp [held]

theorem Inv.reg_inj {s : St} (h : Inv s) {i o o' : Nat} (h1 : (i, o) ∈ s.reg) (h2 : (i, o') ∈ s.reg) : o = o' :=
  congrArg Prod.snd (eq_of_nodup_map h.regNodup h1 h2 rfl)

theorem Inv.member_alive {s : St} (h : Inv s) {c o : Nat} (ho : o ∈ held (s.pc c)) :
    (s.obj o).ended = false ∧ ((s.obj o).id, o) ∈ s.reg := by
  have hl := h.heldLive c o ho
  cases he : (s.obj o).ended with
  | false => exact ⟨rfl, (h.alive o hl he).1⟩
  | true => exact absurd ((h.mem c o hl).mpr ho) (by simp [(h.dead o hl he).1])

/-- a handler moves on without touching anything shared and without changing which sessions it is in; it may have been
    handed a number that is in nobody's hands (`hreg`, about the position `p` it moves to) -/
theorem Inv.retarget {s : St} (h : Inv s) {c : Nat} {p₀ p : PC} (hpc : s.pc c = p₀)
    (hheld : held p = held p₀) (hold : ∀ o k, p₀ ≠ .unreg o k) (hnew : ∀ o k, p ≠ .unreg o k)
    (hreg : ∀ i, p = .register i → (i ≤ s.cur ∧ i ∉ s.pool ∧ i ∉ s.reg.map Prod.fst) ∧ ∀ c', s.pc c' ≠ .register i)
    (hadd : ∀ cur o, p = .add cur o → o < s.n ∧ o ∉ cur.toList) : Inv (s.setPc c p) := by
  subst hpc
  have heldEq := setPc_congr held hheld
  have unregEq := fun o k => setPc_eq_iff rfl (hold o k) (hnew o k)
  exact { h with
    dead := by simp only [unregEq]; exact h.dead
    unregOk := by simp only [unregEq]; exact h.unregOk
    unregUnique := by simp only [unregEq]; exact h.unregUnique
    mem := by simp only [heldEq]; exact h.mem
    heldLive := by simp only [heldEq]; exact h.heldLive
    heldNodup := by simp only [heldEq]; exact h.heldNodup
    addOk := fun c' cur o hk => (setPc_eq.mp hk).elim (fun e => hadd cur o e.2) fun e => h.addOk c' cur o e.2
    pend := fun c' i hk => (setPc_eq.mp hk).elim (fun e => (hreg i e.2).1) fun e => h.pend c' i e.2
    pendUnique := fun c₁ c₂ i h₁ h₂ => by
      rcases setPc_eq.mp h₁ with ⟨e₁, p₁⟩ | ⟨_, h₁⟩ <;> rcases setPc_eq.mp h₂ with ⟨e₂, p₂⟩ | ⟨_, h₂⟩
      · exact e₁.trans e₂.symm
      · exact absurd h₂ ((hreg i p₁).2 c₂)
      · exact absurd h₁ ((hreg i p₂).2 c₁)
      · exact h.pendUnique c₁ c₂ i h₁ h₂ }

/-- AddParticipant / RemoveParticipant: connection `c` enters or leaves the session object `o`, which has not ended.  `v` is
    the object afterwards, `p` where the handler goes on: to unregistering `o` exactly when it has left it empty, and `o`
    has ended by that.  Entering and leaving are one statement because `hmem` decides whether `c` is among the new
    participants by whether `p` holds `o`.  `hreg` is about `p₀`, `hreg'` about `p` (in `Inv.retarget`, `hreg` is about `p`) -/
theorem Inv.move {s : St} (h : Inv s) {c o : Nat} {v : Obj} {p₀ p : PC} (hpc : s.pc c = p₀)
    (hold : ∀ o' k, p₀ ≠ .unreg o' k) (hreg : ∀ i, p₀ ≠ .register i)
    (hon : o < s.n) (hoe : (s.obj o).ended = false) (hid : v.id = (s.obj o).id)
    (hmem : ∀ c', c' ∈ v.members ↔ if c' = c then o ∈ held p else c' ∈ (s.obj o).members)
    (hheld : ∀ o', o' ≠ o → (o' ∈ held p ↔ o' ∈ held p₀)) (hnd : (held p).Nodup)
    (hun : ∀ o' k, p = .unreg o' k → o' = o ∧ v.ended = true)
    (hlast : v.ended = true → v.members = [] ∧ ∃ k, p = .unreg o k) (hmore : v.ended = false → v.members ≠ [])
    (hreg' : ∀ i, p ≠ .register i) (hadd : ∀ cur o', p ≠ .add cur o') : Inv ((s.setObj o v).setPc c p) := by
  subst hpc
  have hor := (h.alive o hon hoe).1
  -- the new state as a record: a field the update leaves alone is then the old one by projection, where otherwise every
  -- use of a clause of `h` unfolds `setObj` and `setPc` again (slow: the two states are compared field by field first)
  show Inv { s with obj := (s.setObj o v).obj, pc := (s.setPc c p).pc }
  have objSelf : (s.setObj o v).obj o = v := setObj_self ..
  have objNe : ∀ {o'}, o' ≠ o → (s.setObj o v).obj o' = s.obj o' := setObj_ne s v
  have regEq := fun i => setPc_eq_iff (s := s) rfl (hreg i) (hreg' i)
  -- nobody was about to unregister `o`; for the other objects those who are stay the same, and so do those who are in them
  have unregO : ∀ {c' k}, (s.setPc c p).pc c' = .unreg o k → c' = c ∧ p = .unreg o k := fun hk =>
    (setPc_eq.mp hk).elim id fun x => Bool.noConfusion (hoe.symm.trans (h.unregOk _ o _ x.2).2)
  have unregNe : ∀ {o'}, o' ≠ o → ∀ c' k, (s.setPc c p).pc c' = .unreg o' k ↔ s.pc c' = .unreg o' k :=
    fun eo c' k => setPc_eq_iff rfl (hold _ k) (fun e => eo (hun _ k e).1) c'
  have heldNe : ∀ {o'}, o' ≠ o → ∀ c', o' ∈ held ((s.setPc c p).pc c') ↔ o' ∈ held (s.pc c') :=
    fun eo c' => Iff.of_eq (setPc_congr (_ ∈ held ·) (propext (hheld _ eo)) c')
  exact { h with
    regOk := fun i o' hm => by
      refine ⟨(h.regOk i o' hm).1, Eq.trans ?_ (h.regOk i o' hm).2⟩
      by_cases eo : o' = o
      · rw [eo, objSelf, hid]
      · rw [objNe eo]
    alive := fun o' ho' he => by
      by_cases eo : o' = o
      · subst eo; rw [objSelf] at he ⊢; exact ⟨hid ▸ hor, hmore he⟩
      · rw [objNe eo] at he ⊢; exact h.alive o' ho' he
    dead := fun o' ho' he => by
      by_cases eo : o' = o
      · subst eo; rw [objSelf] at he ⊢
        have ⟨hm, k, hp⟩ := hlast he
        exact ⟨hm, fun _ => ⟨c, k, setPc_eq.mpr (.inl ⟨rfl, hp⟩)⟩, fun _ => hid ▸ hor⟩
      · rw [objNe eo] at he ⊢; simp only [unregNe eo]; exact h.dead o' ho' he
    unregOk := fun c' o' k hk => by
      by_cases eo : o' = o
      · subst eo; rw [objSelf]; exact ⟨hon, (hun o' k (unregO hk).2).2⟩
      · rw [objNe eo]; exact h.unregOk c' o' k ((unregNe eo c' k).mp hk)
    unregUnique := fun c₁ c₂ o' k₁ k₂ h₁ h₂ => by
      by_cases eo : o' = o
      · subst eo; exact (unregO h₁).1.trans (unregO h₂).1.symm
      · exact h.unregUnique c₁ c₂ o' k₁ k₂ ((unregNe eo ..).mp h₁) ((unregNe eo ..).mp h₂)
    mem := fun c' o' ho' => by
      by_cases eo : o' = o
      · subst eo; rw [objSelf, hmem, setPc_pc]; split
        · rfl
        · exact h.mem c' o' ho'
      · rw [objNe eo, heldNe eo]; exact h.mem c' o' ho'
    heldLive := fun c' o' ho' => by
      by_cases eo : o' = o
      · exact eo ▸ hon
      · exact h.heldLive c' o' ((heldNe eo c').mp ho')
    heldNodup := fun c' => by
      rw [setPc_pc]; split
      · exact hnd
      · exact h.heldNodup c'
    addOk := fun c' cur o' hk => (setPc_eq.mp hk).elim (fun e => absurd e.2 (hadd cur o')) fun e => h.addOk c' cur o' e.2
    pend := by simp only [regEq]; exact h.pend
    pendUnique := by simp only [regEq]; exact h.pendUnique }

/-- AddParticipant succeeds: the connection is in `o` from now on -/
theorem Inv.add_ok {s : St} (h : Inv s) {c o : Nat} {cur : Option Nat} (hpc : s.pc c = .add cur o)
    (hne : (s.obj o).ended = false) (p : PC) (hp : held p = cur.toList ++ [o])
    (hpu : ∀ o k, p ≠ .unreg o k) (hpr : ∀ i, p ≠ .register i) (hpa : ∀ cur o, p ≠ .add cur o) :
    Inv ((s.setObj o { s.obj o with members := c :: (s.obj o).members }).setPc c p) := by
  have ⟨hon, hocur⟩ := h.addOk c cur o hpc
  exact h.move hpc nofun nofun hon hne rfl (fun c' => by split <;> simp [*]) (fun o' eo => by rw [hp]; simp [held, eo])
    (by rw [hp]; cases cur <;> simp at hocur ⊢; exact Ne.symm hocur) (fun o' k e => absurd e (hpu o' k))
    (fun e => Bool.noConfusion (hne.symm.trans e)) (fun _ => List.cons_ne_nil _ _) hpr hpa

/-- RemoveParticipant: the connection leaves `o`; when nobody is left, `o` has ended and this handler is the one to
    unregister it -/
theorem Inv.rem_ok {s : St} (h : Inv s) {c o : Nat} {k : Then} (hpc : s.pc c = .rem o k) :
    let ms := (s.obj o).members.filter (· != c)
    Inv (if ms.isEmpty then (s.setObj o { s.obj o with members := ms, ended := true }).setPc c (.unreg o k)
         else (s.setObj o { s.obj o with members := ms }).setPc c k.next) := by
  intro ms
  have hheld : held (s.pc c) = o :: k.objs := by rw [hpc]; rfl
  have ⟨hok, hnd⟩ := List.nodup_cons.mp (hheld ▸ h.heldNodup c)
  have hoe := (h.member_alive (hheld ▸ List.mem_cons_self ..)).1
  have go := fun (v : Obj) (p : PC) (hv : v.members = ms) (hp : held p = k.objs) =>
    h.move (v := v) (p := p) hpc nofun nofun (h.heldLive c o (hheld ▸ List.mem_cons_self ..)) hoe
      (hmem := fun c' => by rw [hv, hp]; split <;> simp [ms, *])
      (hheld := fun o' eo => by rw [hp]; simp [held, eo]) (hnd := hp ▸ hnd)
  split
  · next hemp =>
    exact go _ _ rfl rfl rfl (fun _ _ e => by cases e; exact ⟨rfl, rfl⟩) (fun _ => ⟨List.isEmpty_iff.mp hemp, k, rfl⟩) nofun nofun nofun
  · next hemp =>
    exact go _ _ rfl (held_next k) rfl (fun _ _ e => absurd e (next_ne_unreg k _ _)) (fun e => Bool.noConfusion (hoe.symm.trans e))
      (fun _ => mt List.isEmpty_iff.mpr hemp) (next_ne_register k) (next_ne_add k)

/-- SequentialIDGenerator.New touches the id source only, and keeps the invariant whichever number it takes out -/
theorem Inv.takeId {s : St} (h : Inv s) (i : Nat) : Inv (s.takeId i) :=
  have curLe : s.cur ≤ (s.takeId i).cur := by
    rw [takeId_cur]; split
    · exact Nat.le_refl _
    · exact Nat.le_succ _
  have pool : ∀ {j}, j ∉ s.pool → j ∉ (s.takeId i).pool := fun hj x => hj (List.mem_filter.mp x).1
  { h with
    regIds := fun j o hm => ⟨Nat.le_trans (h.regIds j o hm).1 curLe, pool (h.regIds j o hm).2⟩
    pend := fun c j hk => ⟨Nat.le_trans (h.pend c j hk).1 curLe, pool (h.pend c j hk).2.1, (h.pend c j hk).2.2⟩
    poolLe := fun j hj => Nat.le_trans (h.poolLe j (List.mem_filter.mp hj).1) curLe }

/-- SequentialIDGenerator.New: a released number, or the next fresh one when none is waiting - in nobody's hands either way -/
theorem Inv.newid_ok {s : St} (h : Inv s) {c : Nat} (hpc : s.pc c = .newid) (hint : Nat) :
    Inv ((s.takeId (pick s.pool s.cur hint)).setPc c (.register (pick s.pool s.cur hint))) := by
  have hpick := pick_spec s.pool s.cur hint
  generalize pick s.pool s.cur hint = i at *
  have fresh : ∀ j, j ≤ s.cur → j ∉ s.pool → j ≠ i := fun j hj hp e =>
    hpick.elim (fun hm => hp (e ▸ hm)) fun hi => Nat.not_succ_le_self _ (hi.2 ▸ e ▸ hj)
  refine (h.takeId i).retarget (p₀ := .newid) hpc rfl nofun nofun ?_ nofun
  intro j e; cases e
  refine ⟨⟨?_, by simp [takeId_pool], fun hm => ?_⟩, fun c' hk => fresh i (h.pend c' i hk).1 (h.pend c' i hk).2.1 rfl⟩
  · rw [takeId_cur]
    rcases hpick with hm | ⟨hp, hi⟩
    · rw [if_pos hm]; exact h.poolLe i hm
    · rw [hp, hi]; simp
  · obtain ⟨q, hq, e⟩ := List.mem_map.mp hm
    exact fresh q.1 (h.regIds q.1 q.2 hq).1 (h.regIds q.1 q.2 hq).2 e

/-- SessionStore.Remove by the handler that removed the last participant -/
theorem Inv.unreg_ok {s : St} (h : Inv s) {c o : Nat} {k : Then} (hpc : s.pc c = .unreg o k) :
    Inv ((s.dropReg (s.obj o).id).setPc c k.next) := by
  have ⟨hon, hoe⟩ := h.unregOk c o k hpc
  have hor : ((s.obj o).id, o) ∈ s.reg := (h.dead o hon hoe).2.mpr ⟨c, k, hpc⟩
  generalize (s.obj o).id = i at *
  show Inv { s with reg := (s.dropReg i).reg, pool := (s.dropReg i).pool, gauge := s.gauge - 1, pc := (s.setPc c k.next).pc }
  have regEq := fun j => setPc_eq_iff (q := .register j) hpc nofun (next_ne_register k j)
  have heldEq := setPc_congr held (s := s) (c := c) (p := k.next) (by rw [held_next, hpc]; rfl)
  -- `c` was the one about to unregister `o`, and is so no longer; the others are the same
  have unreg : ∀ c' o' k', (s.setPc c k.next).pc c' = .unreg o' k' ↔ o' ≠ o ∧ s.pc c' = .unreg o' k' := fun c' o' k' =>
    setPc_eq.trans ⟨fun e => e.elim (fun e => absurd e.2 (next_ne_unreg k _ _)) fun e =>
        ⟨fun eo => e.1 (h.unregUnique c' c o k' k (eo ▸ e.2) hpc), e.2⟩,
      fun e => .inr ⟨fun ec => e.1 (PC.unreg.inj ((ec ▸ e.2).symm.trans hpc)).1, e.2⟩⟩
  -- what is registered: the same but for `o`
  have reg : ∀ j o', (j, o') ∈ (s.dropReg i).reg ↔ o' ≠ o ∧ (j, o') ∈ s.reg := fun j o' => by
    rw [dropReg_reg, List.mem_filter, bne_iff_ne, and_comm]
    exact and_congr_left fun hm => not_congr
      ⟨fun ej => h.reg_inj (ej ▸ hm) hor, fun eo => (h.regOk j o (eo ▸ hm)).2.symm.trans (h.regOk i o hor).2⟩
  have pool : ∀ j, j ≠ i → j ∉ s.pool → j ∉ (s.dropReg i).pool := fun j ne hj x =>
    (List.mem_cons.mp x).elim ne fun x => hj (List.mem_filter.mp x).1
  exact { h with
    regNodup := (List.filter_sublist.map _).nodup h.regNodup
    regOk := fun j o' hm => h.regOk j o' ((reg j o').mp hm).2
    alive := fun o' ho' he =>
      ⟨(reg _ _).mpr ⟨fun eo => Bool.noConfusion ((eo ▸ he).symm.trans hoe), (h.alive o' ho' he).1⟩, (h.alive o' ho' he).2⟩
    dead := fun o' ho' he => ⟨(h.dead o' ho' he).1,
      (reg (s.obj o').id o').trans (by simp only [unreg, exists_and_left, (h.dead o' ho' he).2])⟩
    unregOk := fun c' o' k' hk => h.unregOk c' o' k' ((unreg ..).mp hk).2
    unregUnique := fun c₁ c₂ o' k₁ k₂ h₁ h₂ => h.unregUnique c₁ c₂ o' k₁ k₂ ((unreg ..).mp h₁).2 ((unreg ..).mp h₂).2
    mem := by simp only [heldEq]; exact h.mem
    heldLive := by simp only [heldEq]; exact h.heldLive
    heldNodup := by simp only [heldEq]; exact h.heldNodup
    addOk := fun c' cur o' hk => (setPc_eq.mp hk).elim (fun e => absurd e.2 (next_ne_add k _ _)) fun e => h.addOk c' cur o' e.2
    regIds := fun j o' hm =>
      have ⟨hm, ne⟩ := List.mem_filter.mp hm
      ⟨(h.regIds j o' hm).1, pool j (by simpa using ne) (h.regIds j o' hm).2⟩
    pend := fun c' j hk =>
      have hp := h.pend c' j ((regEq j c').mp hk)
      ⟨hp.1, pool j (fun e => hp.2.2 (e ▸ List.mem_map_of_mem hor)) hp.2.1, fun hm => hp.2.2 ((List.filter_sublist.map _).subset hm)⟩
    pendUnique := by simp only [regEq]; exact h.pendUnique
    poolLe := fun j hj => (List.mem_cons.mp hj).elim (fun e => e ▸ (h.regIds i o hor).1) fun m => h.poolLe j (List.mem_filter.mp m).1
    gauge := by
      have := length_filter_of_nodup_map h.regNodup hor
      show s.gauge - 1 = ((s.reg.filter (·.1 != (i, o).1)).length : Int)
      rw [h.gauge]; omega }

/-- SessionStore.Add of a new session object that already holds its creator -/
theorem Inv.register_ok {s : St} (h : Inv s) {c i : Nat} (hpc : s.pc c = .register i) :
    Inv ((s.addReg i c).setPc c (.idle (some s.n))) := by
  have ⟨hic, hip, hir⟩ := h.pend c i hpc
  have regs : ((s.addReg i c).setPc c (.idle (some s.n))).reg = (i, s.n) :: s.reg := (addReg_reg s i c).trans <|
    congrArg _ (List.filter_eq_self.mpr fun q hq => bne_iff_ne.mpr fun (e : q.1 = i) => hir (e ▸ List.mem_map_of_mem hq))
  have objNew : ((s.addReg i c).setPc c (.idle (some s.n))).obj s.n = { id := i, members := [c], ended := false } :=
    (addReg_obj ..).trans (if_pos rfl)
  have objOld : ∀ {o}, o < s.n → ((s.addReg i c).setPc c (.idle (some s.n))).obj o = s.obj o := fun ho =>
    (addReg_obj ..).trans (if_neg (Nat.ne_of_lt ho))
  have unregEq := fun o k => setPc_eq_iff (s := s.addReg i c) (p := .idle (some s.n)) (q := .unreg o k) hpc nofun nofun
  have split : ∀ {o}, o < s.n + 1 → o < s.n ∨ o = s.n := Nat.lt_succ_iff_lt_or_eq.mp
  exact { h with
    regNodup := by rw [regs]; exact List.nodup_cons.mpr ⟨hir, h.regNodup⟩
    regOk := fun j o hm => by
      rw [regs] at hm
      rcases List.mem_cons.mp hm with e | hm
      · cases e; exact ⟨Nat.lt_succ_self _, by rw [objNew]⟩
      · have := h.regOk j o hm; exact ⟨Nat.lt_succ_of_lt this.1, by rw [objOld this.1]; exact this.2⟩
    alive := fun o ho he => by
      rw [regs]
      rcases split ho with lt | rfl
      · rw [objOld lt] at he ⊢; exact ⟨List.mem_cons_of_mem _ (h.alive o lt he).1, (h.alive o lt he).2⟩
      · rw [objNew]; exact ⟨List.mem_cons_self .., List.cons_ne_nil _ _⟩
    dead := fun o ho he => by
      rcases split ho with lt | rfl
      · rw [objOld lt] at he ⊢
        simp only [regs, unregEq, List.mem_cons, Prod.mk.injEq, Nat.ne_of_lt lt, and_false, false_or]
        exact h.dead o lt he
      · rw [objNew] at he; cases he
    unregOk := fun c' o k hk => by
      have := h.unregOk c' o k ((unregEq o k c').mp hk)
      exact ⟨Nat.lt_succ_of_lt this.1, by rw [objOld this.1]; exact this.2⟩
    unregUnique := by simp only [unregEq]; exact h.unregUnique
    mem := fun c' o ho => by
      rw [setPc_pc]
      rcases split ho with lt | rfl
      · rw [objOld lt]; split
        · next e => subst e; simp [h.mem c' o lt, hpc, held, Nat.ne_of_lt lt]
        · exact h.mem c' o lt
      · rw [objNew]; split
        · next e => simp [e, held]
        · next e => simpa [e] using fun x => Nat.lt_irrefl _ (h.heldLive c' _ x)
    heldLive := fun c' o ho => by
      rw [setPc_pc] at ho; split at ho
      · cases List.mem_singleton.mp ho; exact Nat.lt_succ_self _
      · exact Nat.lt_succ_of_lt (h.heldLive c' o ho)
    heldNodup := fun c' => by
      rw [setPc_pc]; split
      · simp [held]
      · exact h.heldNodup c'
    addOk := fun c' cur o hk => (setPc_eq.mp hk).elim (fun e => nomatch e.2) fun e =>
      ⟨Nat.lt_succ_of_lt (h.addOk c' cur o e.2).1, (h.addOk c' cur o e.2).2⟩
    regIds := fun j o hm => by
      rw [regs] at hm
      rcases List.mem_cons.mp hm with e | hm
      · cases e; exact ⟨hic, hip⟩
      · exact h.regIds j o hm
    pend := fun c' j hk => by
      rcases setPc_eq.mp hk with ⟨_, e⟩ | ⟨ne, hk⟩
      · cases e
      · have := h.pend c' j hk
        refine ⟨this.1, this.2.1, ?_⟩
        rw [regs]
        exact fun hm => (List.mem_cons.mp hm).elim (fun e => ne (h.pendUnique c' c j hk (e ▸ hpc))) this.2.2
    pendUnique := fun c₁ c₂ j h₁ h₂ => h.pendUnique c₁ c₂ j ((setPc_eq.mp h₁).elim (fun e => nomatch e.2) (·.2))
      ((setPc_eq.mp h₂).elim (fun e => nomatch e.2) (·.2))
    gauge := by rw [regs, setPc_gauge, addReg_gauge, h.gauge]; rfl }

theorem Inv.step {s : St} (h : Inv s) (c : Nat) (r : Req) (hint : Nat) : Inv (step s c r hint) := by
  unfold Registry.step
  cases hpc : s.pc c with
  | idle cur =>
    cases r with
    | joinId i =>
      refine iteInduction (motive := Inv) (fun _ => h) fun hid => ?_
      split
      · exact h
      · next o hl =>
        -- found: `o` is registered under `i`, so it is live, and it is not the session the connection is in, whose
        -- number is not `i` (`hid`)
        have ho := h.regOk i o ((lookup_eq_some h.regNodup).mp hl)
        refine h.retarget hpc rfl nofun nofun nofun fun _ _ e => ?_
        cases e
        exact ⟨ho.1, fun hm => hid (by cases Option.mem_toList.mp hm; exact beq_iff_eq.mpr ho.2)⟩
    | joinNew => cases cur <;> exact h.retarget hpc rfl nofun nofun nofun nofun
    | disconnect =>
      cases cur with
      | none => exact h
      | some o' => exact h.retarget hpc rfl nofun nofun nofun nofun
  | add cur o =>
    dsimp only
    split
    · exact h.retarget hpc rfl nofun nofun nofun nofun
    · next hne => cases cur <;> exact h.add_ok hpc (by simpa using hne) _ rfl nofun nofun nofun
  | rem o k => exact h.rem_ok hpc
  | unreg o k => exact h.unreg_ok hpc
  | newid => exact h.newid_ok hpc hint
  | register i => exact h.register_ok hpc

theorem Inv.run {s : St} (h : Inv s) (ms : List Move) : Inv (run s ms) :=
  List.foldlRecOn ms _ h fun _ hs m _ => hs.step m.1 m.2.1 m.2.2

end Hagall.Registry
