/-
  The cell bookkeeping of the dagaz grid (`Model/GridIndex.lean`): where a plane is registered after a loop over cells,
  as an equivalence (`reg_forCells`; `reg_passes` for a list of loops, which the four edge loops of `mergeQuads` are).
  A loop applies its operation to a cell once per visit (`forCells_get`), and of the operation it matters only whether
  it adds the plane or leaves it alone.  Growth is described cell by cell (`grow_get_shift`, `grow_get_cases`).
-/
import Hagall.Model.GridIndex
namespace Hagall.Grid

/-- plane `a` is registered in cell (x, y) -/
def Reg (c : Cells) (a x y : Nat) : Prop := ∃ l, c.get x y = some l ∧ a ∈ l

theorem reg_iff_of_get {c : Cells} {a x y : Nat} {l : List Nat} (h : c.get x y = some l) : Reg c a x y ↔ a ∈ l :=
  ⟨fun ⟨_, hl, ha⟩ => Option.some.inj (h.symm.trans hl) ▸ ha, fun ha => ⟨l, h, ha⟩⟩

theorem mem_map_add_range {a n x : Nat} : x ∈ (List.range n).map (· + a) ↔ a ≤ x ∧ x < a + n := by
  rw [show (· + a) = (a + ·) from funext (Nat.add_comm · a), ← List.range'_eq_map_range, List.mem_range'_1]

theorem mem_rangeIncl {a b x : Nat} : x ∈ rangeIncl a b ↔ a ≤ x ∧ x ≤ b := by
  unfold rangeIncl
  split
  next h => rw [mem_map_add_range, ← Nat.add_assoc, Nat.add_sub_cancel' h, Nat.lt_succ_iff]
  next h => exact ⟨fun hm => (nomatch hm), fun hx => absurd (Nat.le_trans hx.1 hx.2) h⟩

theorem mem_rangeExcl {a b x : Nat} : x ∈ rangeExcl a b ↔ a ≤ x ∧ x < b := by
  unfold rangeExcl
  split
  next h => rw [mem_map_add_range, Nat.add_sub_cancel' (Nat.le_of_lt h)]
  next h => exact ⟨fun hm => (nomatch hm), fun hx => absurd (Nat.lt_of_le_of_lt hx.1 hx.2) h⟩

theorem mem_rangeDown {hi lo x : Nat} : x ∈ rangeDown hi lo ↔ lo < x ∧ x ≤ hi := by
  unfold rangeDown
  split
  next h =>
    rw [List.mem_reverse]
    show x ∈ (List.range (hi - lo)).map (· + (lo + 1)) ↔ _
    rw [mem_map_add_range, Nat.add_right_comm, Nat.add_sub_cancel' (Nat.le_of_lt h), Nat.lt_succ_iff]
    exact Iff.rfl
  next h => exact ⟨fun hm => (nomatch hm), fun hx => absurd (Nat.lt_of_lt_of_le hx.1 hx.2) h⟩

theorem mem_grid2 {ys xs : List Nat} {x y : Nat} : (x, y) ∈ grid2 ys xs ↔ y ∈ ys ∧ x ∈ xs := by
  unfold grid2
  simp only [List.mem_flatMap, List.mem_map, Prod.mk.injEq]
  exact ⟨by rintro ⟨_, hy, _, hx, rfl, rfl⟩; exact ⟨hy, hx⟩, fun ⟨hy, hx⟩ => ⟨y, hy, x, hx, rfl, rfl⟩⟩

theorem put_eq_some {c c' : Cells} {x y : Nat} {l : List Nat} :
    c.put x y l = some c' ↔ ∃ row, c[y]? = some row ∧ x < row.length ∧ c.set y (row.set x l) = c' := by
  unfold Cells.put
  cases c[y]? <;> simp

theorem get_put {c c' : Cells} {x y : Nat} {l : List Nat} (h : c.put x y l = some c') (x' y' : Nat) :
    c'.get x' y' = if x' = x ∧ y' = y then some l else c.get x' y' := by
  obtain ⟨row, hrow, hx, rfl⟩ := put_eq_some.mp h
  have hy := (List.getElem?_eq_some_iff.mp hrow).1
  unfold Cells.get
  by_cases hy' : y' = y
  · subst hy'
    rw [List.getElem?_set_self hy, hrow, Option.bind_some, Option.bind_some, List.getElem?_set, if_pos hx]
    simp only [and_true, eq_comm]
  · rw [List.getElem?_set_ne (Ne.symm hy'), if_neg fun h => hy' h.2]

theorem put_isSome_of_get {c : Cells} {x y : Nat} {l0 : List Nat} (h : c.get x y = some l0) (l : List Nat) :
    ∃ c', c.put x y l = some c' :=
  have ⟨row, hrow, hx⟩ := Option.bind_eq_some_iff.mp h
  ⟨_, put_eq_some.mpr ⟨row, hrow, (List.getElem?_eq_some_iff.mp hx).1, rfl⟩⟩

/-- overwriting an occurrence with the last element and dropping the last is erasing it, up to order -/
theorem removeSwap_perm (l : List Nat) (id : Nat) : (removeSwap l id).Perm (l.erase id) := by
  induction l with
  | nil => exact .refl _
  | cons x xs ih =>
    unfold removeSwap
    by_cases hx : x = id
    · subst hx
      rcases List.eq_nil_or_concat xs with rfl | ⟨ys, z, rfl⟩
      · simp
      · simpa using (List.perm_append_singleton z ys).symm
    · simp [hx, ih]

theorem mem_removeSwap_of_ne {l : List Nat} {id a : Nat} (hne : a ≠ id) : a ∈ removeSwap l id ↔ a ∈ l :=
  (removeSwap_perm l id).mem_iff.trans (List.mem_erase_of_ne hne)

theorem mem_of_mem_removeSwap {l : List Nat} {id a : Nat} (h : a ∈ removeSwap l id) : a ∈ l :=
  List.mem_of_mem_erase ((removeSwap_perm l id).mem_iff.mp h)

theorem mem_edgeOp {eid a : Nat} {b : Bool} (hb : a = eid → b = true) (l : List Nat) :
    a ∈ edgeOp eid b l ↔ a ∈ l ∨ a = eid := by
  unfold edgeOp
  by_cases ha : a = eid
  · simp [hb ha, ha]
  · cases b <;> simp [ha, mem_removeSwap_of_ne ha]

def iter {α : Type} (f : α → α) : Nat → α → α
  | 0, a => a
  | n + 1, a => iter f n (f a)

theorem mem_iter {f : List Nat → List Nat} {a : Nat} {p : Prop} (hf : ∀ l, a ∈ f l ↔ a ∈ l ∨ p) (n : Nat) (l : List Nat) :
    a ∈ iter f n l ↔ a ∈ l ∨ (p ∧ 0 < n) := by
  induction n generalizing l with
  | zero => simp [iter]
  | succ n ih =>
    simp only [iter, ih, hf, Nat.zero_lt_succ, and_true, or_assoc]
    exact or_congr_right (or_iff_left_of_imp And.left)

theorem iterate_mem_of {f : List Nat → List Nat} {a : Nat} (hf : ∀ l, a ∈ f l → a ∈ l) :
    ∀ n l, a ∈ iter f n l → a ∈ l := by
  intro n
  induction n with
  | zero => exact fun _ h => h
  | succ n ih => exact fun l h => hf l (ih (f l) h)

theorem forCells_nil {c c' : Cells} {f : List Nat → List Nat} : c.forCells [] f = some c' ↔ c = c' := by
  simp [Cells.forCells]

theorem forCells_cons {c c' : Cells} {xy : Nat × Nat} {cs : List (Nat × Nat)} {f : List Nat → List Nat} :
    c.forCells (xy :: cs) f = some c' ↔
      ∃ c1, (∃ l, c.get xy.1 xy.2 = some l ∧ c.put xy.1 xy.2 (f l) = some c1) ∧ c1.forCells cs f = some c' :=
  Option.bind_eq_some_iff.trans (exists_congr fun _ => and_congr_left fun _ => Option.bind_eq_some_iff)

theorem forCells_get {f : List Nat → List Nat} {cs : List (Nat × Nat)} {c c' : Cells} (h : c.forCells cs f = some c')
    (x y : Nat) : c'.get x y = (c.get x y).map (iter f (cs.count (x, y))) := by
  induction cs generalizing c with
  | nil => cases forCells_nil.mp h; cases c'.get x y <;> rfl
  | cons xy cs ih =>
    obtain ⟨c1, ⟨l, hg, hp⟩, h⟩ := forCells_cons.mp h
    rw [ih h, get_put hp, List.count_cons]
    by_cases hxy : xy = (x, y)
    · subst hxy; simp [hg, iter]
    · have : ¬ (x = xy.1 ∧ y = xy.2) := fun ⟨h1, h2⟩ => hxy (by rw [h1, h2])
      simp [hxy, this]

theorem forCells_defined {f : List Nat → List Nat} {cs : List (Nat × Nat)} {c c' : Cells} (h : c.forCells cs f = some c') :
    ∀ xy ∈ cs, ∃ l, c.get xy.1 xy.2 = some l := by
  intro xy hm
  -- the loop reads `xy` in the state it has reached by then, which has the cells of `c` and no others (`forCells_get`)
  obtain ⟨pre, post, rfl⟩ := List.append_of_mem hm
  rw [Cells.forCells, List.foldlM_append] at h
  obtain ⟨c1, hpre, h⟩ := Option.bind_eq_some_iff.mp h
  obtain ⟨_, ⟨l1, h1, _⟩, _⟩ := forCells_cons.mp h
  rw [forCells_get hpre] at h1
  exact (Option.map_eq_some_iff.mp h1).imp fun _ hl => hl.1

theorem forCells_untouched {f : List Nat → List Nat} {cs : List (Nat × Nat)} {c c' : Cells}
    (h : c.forCells cs f = some c') {x y : Nat} (hxy : (x, y) ∉ cs) : c'.get x y = c.get x y := by
  rw [forCells_get h, List.count_eq_zero_of_not_mem hxy]
  cases c.get x y <;> rfl

/-- Where a plane is registered after a loop: where it was, and, if `f` adds it (`p`), in the visited cells.
    Of `f` only its effect on the cell in question matters, and only if that cell is visited. -/
theorem reg_forCells {f : List Nat → List Nat} {cs : List (Nat × Nat)} {c c' : Cells} (h : c.forCells cs f = some c')
    {a x y : Nat} {p : Prop} (hf : (x, y) ∈ cs → ∀ l, a ∈ f l ↔ a ∈ l ∨ p) :
    Reg c' a x y ↔ Reg c a x y ∨ (p ∧ (x, y) ∈ cs) := by
  by_cases hm : (x, y) ∈ cs
  · obtain ⟨l, hl⟩ := forCells_defined h _ hm
    have hl' : c'.get x y = some (iter f (cs.count (x, y)) l) := by rw [forCells_get h, hl, Option.map_some]
    rw [reg_iff_of_get hl', reg_iff_of_get hl, mem_iter (hf hm), List.count_pos_iff]
  · simp only [Reg, forCells_untouched h hm, hm, and_false, or_false]

/-- loops over strips of cells, one after the other; in each the plane `eid` is appended (`true`) or removed -/
def passes (eid : Nat) (c : Cells) (ps : List (List (Nat × Nat) × Bool)) : Option Cells :=
  ps.foldlM (fun c p => c.forCells p.1 (edgeOp eid p.2)) c

/-- After the passes a plane is registered where it was, and the plane `eid` also in every cell of a strip,
    provided the strips that hold the cell in question all expand. -/
theorem reg_passes {eid a x y : Nat} {ps : List (List (Nat × Nat) × Bool)} {c c' : Cells} (h : passes eid c ps = some c')
    (hb : ∀ p ∈ ps, a = eid → (x, y) ∈ p.1 → p.2 = true) :
    Reg c' a x y ↔ Reg c a x y ∨ (a = eid ∧ ∃ p ∈ ps, (x, y) ∈ p.1) := by
  induction ps generalizing c with
  | nil => cases h; simp
  | cons p ps ih =>
    obtain ⟨c1, h1, h⟩ := Option.bind_eq_some_iff.mp h
    rw [ih h fun q hq => hb q (List.mem_cons_of_mem _ hq),
      reg_forCells h1 fun hm => mem_edgeOp fun ha => hb p (List.mem_cons_self ..) ha hm]
    simp only [List.mem_cons, exists_eq_or_imp, and_or_left, or_assoc]

theorem reRegister_eq_passes (c : Cells) (eid : Nat) (s0 s1 : Span) : reRegister c eid s0 s1 = passes eid c
    [(grid2 (rangeIncl (min s0.minY s1.minY) (max s0.maxY s1.maxY)) (rangeExcl (min s0.minX s1.minX) (max s0.minX s1.minX)),
        decide (s1.minX < s0.minX)),
      (grid2 (rangeIncl (min s0.minY s1.minY) (max s0.maxY s1.maxY)) (rangeDown (max s0.maxX s1.maxX) (min s0.maxX s1.maxX)),
        !decide (s1.maxX < s0.maxX)),
      (grid2 (rangeExcl (min s0.minY s1.minY) (max s0.minY s1.minY)) (rangeIncl (max s0.minX s1.minX) (min s0.maxX s1.maxX)),
        decide (s1.minY < s0.minY)),
      (grid2 (rangeDown (max s0.maxY s1.maxY) (min s0.maxY s1.maxY)) (rangeIncl (max s0.minX s1.minX) (min s0.maxX s1.maxX)),
        !decide (s1.maxY < s0.maxY))] := by
  simp only [reRegister, passes, List.foldlM_cons, List.foldlM_nil, bind_pure]
  rfl

theorem nodup_eraseDups {α : Type} [BEq α] [LawfulBEq α] (l : List α) : l.eraseDups.Nodup := by
  generalize hn : l.length = n
  induction n using Nat.strongRecOn generalizing l with | _ n ih => ?_
  cases l with
  | nil => simp
  | cons a as =>
    rw [List.eraseDups_cons, List.nodup_cons]
    exact ⟨by simp [List.mem_eraseDups], ih _ (hn ▸ Nat.lt_succ_of_le (List.length_filter_le ..)) _ rfl⟩

theorem mapM_option_mem {α β : Type} {f : α → Option β} {as : List α} {bs : List β} (h : as.mapM f = some bs) {b : β} :
    b ∈ bs ↔ ∃ a ∈ as, f a = some b := by
  induction as generalizing bs with
  | nil => cases h; simp
  | cons a as ih =>
    rw [List.mapM_cons] at h
    obtain ⟨b1, hb, h⟩ := Option.bind_eq_some_iff.mp h
    obtain ⟨bs1, hbs, h⟩ := Option.bind_eq_some_iff.mp h
    cases h
    simp only [List.mem_cons, exists_eq_or_imp, hb, Option.some.injEq, ih hbs, eq_comm (a := b1)]

theorem getElem?_pad_shift {α : Type} {e v : α} {l : List α} {n i : Nat} (front : Bool) (h : l[i]? = some v) :
    (if front then List.replicate n e ++ l else l ++ List.replicate n e)[i + if front then n else 0]? = some v := by
  cases front
  · exact (List.getElem?_append_left (List.getElem?_eq_some_iff.mp h).1).trans h
  · rw [if_pos rfl, if_pos rfl, List.getElem?_append_right (by simp), List.length_replicate, Nat.add_sub_cancel, h]

theorem getElem?_pad_cases {α : Type} {e v : α} {l : List α} {n i : Nat} {front : Bool}
    (h : (if front then List.replicate n e ++ l else l ++ List.replicate n e)[i]? = some v) :
    v = e ∨ ∃ i0, i = i0 + (if front then n else 0) ∧ l[i0]? = some v := by
  have hr : ∀ {j : Nat}, (List.replicate n e)[j]? = some v → v = e :=
    fun h => (List.mem_replicate.mp (List.mem_of_getElem? h)).2
  cases front
  · rw [if_neg Bool.false_ne_true, List.getElem?_append] at h
    split at h
    · exact .inr ⟨i, rfl, h⟩
    · exact .inl (hr h)
  · rw [if_pos rfl, List.getElem?_append, List.length_replicate] at h
    split at h
    · exact .inl (hr h)
    · exact .inr ⟨i - n, (Nat.sub_add_cancel (Nat.le_of_not_lt ‹_›)).symm, h⟩

theorem grow_get_shift (c : Cells) (xc yc : Nat) (left top : Bool) {x y : Nat} {l : List Nat}
    (h : c.get x y = some l) :
    (grow c xc yc left top).get (x + if left then xc else 0) (y + if top then yc else 0) = some l := by
  obtain ⟨row, hrow, hx⟩ := Option.bind_eq_some_iff.mp h
  rw [Cells.get, grow, getElem?_pad_shift top (by rw [List.getElem?_map, hrow]; rfl)]
  exact getElem?_pad_shift left hx

theorem grow_get_cases (c : Cells) (xc yc : Nat) (left top : Bool) {x y : Nat} {l : List Nat}
    (h : (grow c xc yc left top).get x y = some l) :
    l = [] ∨ ∃ x0 y0, x = x0 + (if left then xc else 0) ∧ y = y0 + (if top then yc else 0) ∧ c.get x0 y0 = some l := by
  obtain ⟨row', hrow', hx⟩ := Option.bind_eq_some_iff.mp h
  rcases getElem?_pad_cases hrow' with rfl | ⟨y0, hy, hr⟩
  · exact .inl (List.mem_replicate.mp (List.mem_of_getElem? hx)).2
  · rw [List.getElem?_map] at hr
    obtain ⟨row, hrow, rfl⟩ := Option.map_eq_some_iff.mp hr
    rcases getElem?_pad_cases hx with rfl | ⟨x0, hx0, hx⟩
    · exact .inl rfl
    · exact .inr ⟨x0, y0, hx0, hy, Option.bind_eq_some_iff.mpr ⟨row, hrow, hx⟩⟩

end Hagall.Grid
