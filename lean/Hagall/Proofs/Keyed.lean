/-
  Lists whose entries carry a key (`f`) that occurs once: the key determines the entry, so looking a key up, and
  filtering it out, behave as on a map.  The updates that keep the keys apart: a new entry at the end under a key
  that is not there (the next value of a counter, for one), an entry replaced under its key, and `upsert`, which
  does the one or the other.
-/
namespace Hagall
variable {α β : Type _} {f : α → β} {l : List α} {a b : α}

theorem eq_of_nodup_map (h : (l.map f).Nodup) (ha : a ∈ l) (hb : b ∈ l) (e : f a = f b) : a = b :=
  have p := List.pairwise_map.mp h
  List.Pairwise.forall_of_forall_of_flip (R := fun a b => f a = f b → a = b) (fun _ _ _ => rfl)
    (p.imp fun ne e => absurd e ne) (p.imp fun ne e => absurd e.symm ne) ha hb e

theorem find_key_some [BEq β] [LawfulBEq β] {k : β} (h : l.find? (f · == k) = some a) : a ∈ l ∧ f a = k :=
  ⟨List.mem_of_find?_eq_some h, by simpa using List.find?_some h⟩

theorem find_of_nodup_map [BEq β] [LawfulBEq β] (h : (l.map f).Nodup) (ha : a ∈ l) : l.find? (f · == f a) = some a := by
  cases hf : l.find? (f · == f a) with
  | none => exact absurd (List.find?_eq_none.mp hf a ha) (by simp)
  | some b => exact congrArg some (eq_of_nodup_map h (find_key_some hf).1 ha (find_key_some hf).2)

theorem find_eq_some_of_nodup_map [BEq β] [LawfulBEq β] (h : (l.map f).Nodup) {k : β} :
    l.find? (f · == k) = some a ↔ a ∈ l ∧ f a = k :=
  ⟨find_key_some, fun ⟨ha, hk⟩ => hk ▸ find_of_nodup_map h ha⟩

theorem filter_key_of_nodup_map [BEq β] [LawfulBEq β] (h : (l.map f).Nodup) (ha : a ∈ l) : l.filter (f · == f a) = [a] := by
  induction l with
  | nil => cases ha
  | cons x xs ih =>
    have ⟨hx, hxs⟩ := List.nodup_cons.mp h
    have key : ∀ b ∈ xs, f b ≠ f x := fun b hb e => hx (e ▸ List.mem_map_of_mem hb)
    rcases List.mem_cons.mp ha with rfl | ha
    · rw [List.filter_cons_of_pos (by simp), List.filter_eq_nil_iff.mpr fun b hb => by simpa using key b hb]
    · rw [List.filter_cons_of_neg (by simpa using (key a ha).symm), ih hxs ha]

theorem filter_key_eq_find [BEq β] [LawfulBEq β] (h : (l.map f).Nodup) (k : β) : l.filter (f · == k) = (l.find? (f · == k)).toList := by
  cases hf : l.find? (f · == k) with
  | none => exact List.filter_eq_nil_iff.mpr fun b hb => List.find?_eq_none.mp hf b hb
  | some b =>
    obtain ⟨hb, rfl⟩ := (find_eq_some_of_nodup_map h).mp hf
    exact filter_key_of_nodup_map h hb

theorem length_filter_of_nodup_map [BEq β] [LawfulBEq β] (h : (l.map f).Nodup) (ha : a ∈ l) :
    (l.filter (f · != f a)).length + 1 = l.length := by
  rw [List.length_eq_countP_add_countP (f · == f a) (l := l), List.countP_eq_length_filter, List.countP_eq_length_filter,
    filter_key_of_nodup_map h ha, Nat.add_comm]
  simp [bne]

theorem find_filter_key_ne [BEq β] [LawfulBEq β] (l : List α) (k : β) : (l.filter (f · != k)).find? (f · == k) = none :=
  List.find?_eq_none.mpr fun x hx => by simpa using (List.mem_filter.mp hx).2

theorem find_key_isSome [BEq β] [LawfulBEq β] {k : β} : (l.find? (f · == k)).isSome = true ↔ ∃ a ∈ l, f a = k := by
  simp only [List.find?_isSome, beq_iff_eq]

theorem find_key_isSome_mono [BEq β] {l' : List α} (h : l.map f ⊆ l'.map f) {k : β}
    (hk : (l.find? (f · == k)).isSome) : (l'.find? (f · == k)).isSome := by
  rw [List.find?_isSome] at hk ⊢
  obtain ⟨b, hb, e⟩ := hk
  obtain ⟨b', hb', e'⟩ := List.mem_map.mp (h (List.mem_map_of_mem hb))
  exact ⟨b', hb', e' ▸ e⟩

theorem forall_mem_concat {P : α → Prop} (h : ∀ b ∈ l, P b) (ha : P a) : ∀ b ∈ l ++ [a], P b :=
  List.forall_mem_append.mpr ⟨h, List.forall_mem_singleton.mpr ha⟩

theorem nodup_concat (h : l.Nodup) (ha : a ∉ l) : (l ++ [a]).Nodup :=
  List.nodup_append.mpr ⟨h, List.pairwise_singleton .., fun _ hb _ hc e => ha (List.mem_singleton.mp hc ▸ e ▸ hb)⟩

theorem nodup_map_concat (h : (l.map f).Nodup) (ha : ∀ b ∈ l, f b ≠ f a) : ((l ++ [a]).map f).Nodup :=
  List.map_append ▸ nodup_concat h fun m => have ⟨b, hb, e⟩ := List.mem_map.mp m; ha b hb e

/-- keys handed out by a counter that bounds them: its next value is a new key -/
theorem nodup_map_concat_succ {f : α → Nat} {n : Nat} (h : (l.map f).Nodup) (hr : ∀ b ∈ l, 0 < f b ∧ f b ≤ n)
    (ha : f a = n + 1) : ((l ++ [a]).map f).Nodup :=
  nodup_map_concat h fun b hb => by have := (hr b hb).2; omega

theorem range_concat_succ {f : α → Nat} {n : Nat} (hr : ∀ b ∈ l, 0 < f b ∧ f b ≤ n) (ha : f a = n + 1) :
    ∀ b ∈ l ++ [a], 0 < f b ∧ f b ≤ n + 1 :=
  forall_mem_concat (fun b hb => ⟨(hr b hb).1, Nat.le_succ_of_le (hr b hb).2⟩) (by omega)

theorem map_map_of_key_eq {g : α → α} (hg : ∀ b ∈ l, f (g b) = f b) : (l.map g).map f = l.map f := by
  rw [List.map_map]; exact List.map_congr_left hg

theorem map_replace_key [BEq β] [LawfulBEq β] : (l.map fun x => if f x == f a then a else x).map f = l.map f :=
  map_map_of_key_eq fun b _ => by
    split
    next e => exact (eq_of_beq e).symm
    · rfl

theorem forall_mem_replace_key [BEq β] [LawfulBEq β] {P : α → Prop} (h : ∀ b ∈ l, f b ≠ f a → P b) (ha : P a) :
    ∀ b ∈ l.map fun x => if f x == f a then a else x, P b :=
  List.forall_mem_map.mpr fun b hb => by
    split
    · exact ha
    next n => exact h b hb (by simpa using n)

theorem mem_replace_key [BEq β] [LawfulBEq β] {x : α} :
    x ∈ (l.map fun y => if f y == f a then a else y) ↔ (x ∈ l ∧ f x ≠ f a) ∨ (x = a ∧ ∃ y ∈ l, f y = f a) := by
  rw [List.mem_map]
  constructor
  · rintro ⟨y, hy, rfl⟩
    split
    next e => exact .inr ⟨rfl, y, hy, eq_of_beq e⟩
    next e => exact .inl ⟨hy, by simpa using e⟩
  · rintro (⟨hx, ne⟩ | ⟨rfl, y, hy, e⟩)
    · exact ⟨x, hx, if_neg (by simpa using ne)⟩
    · exact ⟨y, hy, if_pos (beq_iff_eq.mpr e)⟩

/-- `a` takes the place of the entry with its key, or goes to the end when there is none.  This is how the model
    keeps the action of an entity under a name (`Session.setAction`) and the asset of an entity (`Session.setAsset`);
    `insertKV` and the monitors' `Spec.setAction`, `Spec.setAsset` have the same shape. -/
def upsert [BEq β] (f : α → β) (l : List α) (a : α) : List α :=
  if l.any (f · == f a) then l.map fun x => if f x == f a then a else x else l ++ [a]

theorem forall_mem_upsert [BEq β] [LawfulBEq β] {P : α → Prop} (h : ∀ b ∈ l, P b) (ha : P a) : ∀ b ∈ upsert f l a, P b := by
  unfold upsert
  by_cases hk : l.any (f · == f a) = true
  · rw [if_pos hk]; exact forall_mem_replace_key (fun b hb _ => h b hb) ha
  · rw [if_neg hk]; exact forall_mem_concat h ha

theorem mem_upsert [BEq β] [LawfulBEq β] (f : α → β) (l : List α) (a : α) :
    a ∈ upsert f l a ∧ (∀ x ∈ upsert f l a, f x = f a → x = a) ∧ ∀ x, f x ≠ f a → (x ∈ upsert f l a ↔ x ∈ l) := by
  unfold upsert
  by_cases h : l.any (f · == f a) = true
  · rw [if_pos h]
    have ⟨y, hy, e⟩ := List.any_eq_true.mp h
    refine ⟨mem_replace_key.mpr (.inr ⟨rfl, y, hy, eq_of_beq e⟩), forall_mem_replace_key (fun _ _ ne e => absurd e ne) fun _ => rfl,
      fun x ne => mem_replace_key.trans ⟨?_, fun hx => .inl ⟨hx, ne⟩⟩⟩
    rintro (h | h)
    · exact h.1
    · exact absurd (congrArg f h.1) ne
  · rw [if_neg h]
    have hl : ∀ b ∈ l, f b ≠ f a := fun b hb e => h (List.any_eq_true.mpr ⟨b, hb, beq_iff_eq.mpr e⟩)
    refine ⟨List.mem_append_right _ (List.mem_singleton.mpr rfl), forall_mem_concat (fun b hb e => absurd e (hl b hb)) fun _ => rfl,
      fun x ne => List.mem_append.trans ⟨?_, .inl⟩⟩
    rintro (h | h)
    · exact h
    · exact absurd (congrArg f (List.mem_singleton.mp h)) ne

theorem nodup_map_upsert [BEq β] [LawfulBEq β] (h : (l.map f).Nodup) : ((upsert f l a).map f).Nodup := by
  unfold upsert
  by_cases hn : l.any (f · == f a) = true
  · rw [if_pos hn, map_replace_key]; exact h
  · rw [if_neg hn]; exact nodup_map_concat h fun b hb e => hn (List.any_eq_true.mpr ⟨b, hb, beq_iff_eq.mpr e⟩)

theorem find_upsert [BEq β] [LawfulBEq β] (h : (l.map f).Nodup) (k : β) :
    (upsert f l a).find? (f · == k) = if f a == k then some a else l.find? (f · == k) := by
  split
  next e => exact eq_of_beq e ▸ find_of_nodup_map (nodup_map_upsert h) (mem_upsert f l a).1
  next ne =>
    refine Option.ext fun x => ?_
    rw [find_eq_some_of_nodup_map (nodup_map_upsert h), find_eq_some_of_nodup_map h]
    exact and_congr_left fun e => (mem_upsert f l a).2.2 x fun e' => ne (beq_iff_eq.mpr (e'.symm.trans e))

/-- a second key stays unique too if that of `a` is new: at most one entry makes way for `a` -/
theorem nodup_map_upsert_of_fresh [BEq β] [LawfulBEq β] {γ : Type _} {g : α → γ} (hf : (l.map f).Nodup) (hg : (l.map g).Nodup)
    (ha : ∀ b ∈ l, g b ≠ g a) : ((upsert f l a).map g).Nodup := by
  unfold upsert
  by_cases hk : l.any (f · == f a) = true
  · rw [if_pos hk, List.map_map, List.Nodup, List.pairwise_map]
    refine ((List.pairwise_map.mp hf).and (List.pairwise_map.mp hg)).imp_of_mem fun {x y} hx hy ⟨hfxy, hgxy⟩ => ?_
    simp only [Function.comp]
    split <;> split
    next ex ey => exact absurd ((eq_of_beq ex).trans (eq_of_beq ey).symm) hfxy
    · exact (ha y hy).symm
    · exact ha x hx
    · exact hgxy
  · rw [if_neg hk]; exact nodup_map_concat hg ha

end Hagall
