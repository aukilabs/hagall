/-
  The data invariant of one session (entities, types, components, module attachments) and its
  preservation by every request and by departures.
-/
import Hagall.Proofs.Frame
namespace Hagall

structure Session.DataOK (s : Session) : Prop where
  eids_nodup : (s.ents.map (·.id)).Nodup
  eid_range : ∀ e ∈ s.ents, 0 < e.id ∧ e.id ≤ s.eidCur
  tids_nodup : (s.types.map (·.1)).Nodup
  names_nodup : (s.types.map (·.2)).Nodup
  tid_range : ∀ t ∈ s.types, 0 < t.1 ∧ t.1 ≤ s.tidCur
  comp_keys : (s.comps.map fun c => (c.tid, c.eid)).Nodup
  comp_ent : ∀ c ∈ s.comps, (s.findEnt c.eid).isSome
  comp_type : ∀ c ∈ s.comps, (s.typeName c.tid).isSome
  act_ent : ∀ a ∈ s.actions, (s.findEnt a.eid).isSome
  act_keys : (s.actions.map fun a => (a.eid, a.name)).Nodup
  asset_ent : ∀ a ∈ s.assets, (s.findEnt a.eid).isSome
  asset_eids : (s.assets.map (·.eid)).Nodup
  asset_ids : (s.assets.map (·.id)).Nodup
  asset_range : ∀ a ∈ s.assets, 0 < a.id ∧ a.id ≤ s.assetCur

theorem Session.DataOK_fresh (id uuid : Nat) : ({ id, uuid } : Session).DataOK := by
  constructor <;> simp

theorem findEnt_isSome_iff (s : Session) (eid : Nat) : (s.findEnt eid).isSome = true ↔ ∃ e ∈ s.ents, e.id = eid :=
  find_key_isSome

theorem findEnt_some_mem {s : Session} {eid : Nat} {e : Entity} (h : s.findEnt eid = some e) : e ∈ s.ents ∧ e.id = eid :=
  find_key_some h

theorem typeName_isSome_iff (s : Session) (tid : Nat) : (s.typeName tid).isSome = true ↔ ∃ t ∈ s.types, t.1 = tid := by
  rw [Session.typeName, Option.isSome_map]
  exact find_key_isSome

theorem findEnt_isSome_of_some {s : Session} {eid : Nat} {e : Entity} (h : s.findEnt eid = some e) :
    (s.findEnt e.id).isSome = true := by
  rw [(findEnt_some_mem h).2, h]; rfl

/-- the modules' clean-up after a delete finds nothing that is attached to an entity that does not exist -/
theorem filter_attached {s : Session} {α : Type} {l : List α} {key : α → Nat} {eid : Nat}
    (h : ∀ a ∈ l, (s.findEnt (key a)).isSome) (he : s.findEnt eid = none) : l.filter (key · != eid) = l :=
  List.filter_eq_self.mpr fun a ha => bne_iff_ne.mpr fun hk => by have := h a ha; rw [hk, he] at this; cases this

theorem actionOk_entity {s : Session} {a : Action} (h : s.actionOk a = true) : (s.findEnt a.eid).isSome = true := by
  unfold Session.actionOk at h
  simp only [Bool.and_eq_true] at h
  exact h.1.2

/-- the invariant of a session under a given module configuration: a module that is not loaded holds
    no state -/
def Session.Inv (cfg : Cfg) (s : Session) : Prop :=
  s.DataOK ∧ (cfg.vikja = false → s.actions = []) ∧ (cfg.odal = false → s.assets = [])

/-- `t` is what is left of `s` when entities, components, actions and assets are taken away, none of those that stay
    having lost its entity (`attached`) -/
structure Session.Sub (t s : Session) : Prop where
  ents : t.ents.Sublist s.ents
  comps : t.comps.Sublist s.comps
  actions : t.actions.Sublist s.actions
  assets : t.assets.Sublist s.assets
  eidCur : t.eidCur = s.eidCur
  types : t.types = s.types
  tidCur : t.tidCur = s.tidCur
  assetCur : t.assetCur = s.assetCur
  attached : ∀ x, (s.findEnt x).isSome → x ∈ t.comps.map (·.eid) ∨ x ∈ t.actions.map (·.eid) ∨ x ∈ t.assets.map (·.eid) →
    (t.findEnt x).isSome

/-- every clause but the three on the entities of components, actions and assets passes to sublists; those three are
    what `attached` is for -/
theorem Session.DataOK.sub {s t : Session} (h : s.DataOK) (hs : t.Sub s) : t.DataOK where
  eids_nodup := (hs.ents.map _).nodup h.eids_nodup
  eid_range e m := hs.eidCur ▸ h.eid_range e (hs.ents.subset m)
  tids_nodup := hs.types ▸ h.tids_nodup
  names_nodup := hs.types ▸ h.names_nodup
  tid_range := hs.types ▸ hs.tidCur ▸ h.tid_range
  comp_keys := (hs.comps.map _).nodup h.comp_keys
  comp_ent c m := hs.attached _ (h.comp_ent c (hs.comps.subset m)) (.inl (List.mem_map_of_mem m))
  comp_type c m := by rw [Session.typeName, hs.types]; exact h.comp_type c (hs.comps.subset m)
  act_ent a m := hs.attached _ (h.act_ent a (hs.actions.subset m)) (.inr (.inl (List.mem_map_of_mem m)))
  act_keys := (hs.actions.map _).nodup h.act_keys
  asset_ent a m := hs.attached _ (h.asset_ent a (hs.assets.subset m)) (.inr (.inr (List.mem_map_of_mem m)))
  asset_eids := (hs.assets.map _).nodup h.asset_eids
  asset_ids := (hs.assets.map _).nodup h.asset_ids
  asset_range a m := hs.assetCur ▸ h.asset_range a (hs.assets.subset m)

theorem Session.Inv.sub {cfg : Cfg} {s t : Session} (h : s.Inv cfg) (hs : t.Sub s) : t.Inv cfg :=
  ⟨h.1.sub hs, fun hv => List.sublist_nil.mp (h.2.1 hv ▸ hs.actions), fun ho => List.sublist_nil.mp (h.2.2 ho ▸ hs.assets)⟩

/-- a module that is not loaded holds nothing, so under the invariant it makes no difference whether its clean-up runs -/
theorem ite_filter_of_nil {α : Type} {b : Bool} {l : List α} (h : b = false → l = []) (f : α → Bool) :
    (if b then l.filter f else l) = l.filter f := by
  cases b
  · rw [h rfl]; rfl
  · rfl

/-- Entities go, and with them what is attached to an id in `dead`: the components, and the actions and assets where
    their module is loaded (where it is not there are none).  This is what a departure and an entity delete do. -/
theorem Session.Inv.removeEnts {cfg : Cfg} {s : Session} (h : s.Inv cfg) (keep : Entity → Bool) (dead : Nat → Bool)
    (hkeep : ∀ e ∈ s.ents, dead e.id = false → keep e = true) :
    Session.Inv cfg { s with ents := s.ents.filter keep, comps := s.comps.filter (!dead ·.eid),
                             actions := if cfg.vikja then s.actions.filter (!dead ·.eid) else s.actions,
                             assets := if cfg.odal then s.assets.filter (!dead ·.eid) else s.assets } := by
  rw [ite_filter_of_nil h.2.1, ite_filter_of_nil h.2.2]
  refine h.sub ⟨List.filter_sublist, List.filter_sublist, List.filter_sublist, List.filter_sublist, rfl, rfl, rfl, rfl,
    fun x hx hatt => ?_⟩
  obtain ⟨e, m, rfl⟩ := (findEnt_isSome_iff s x).mp hx
  refine (findEnt_isSome_iff _ _).mpr ⟨e, List.mem_filter.mpr ⟨m, hkeep e m ?_⟩, rfl⟩
  rcases hatt with h | h | h <;> obtain ⟨a, ha, heq⟩ := List.mem_map.mp h <;>
    simpa [heq] using (List.mem_filter.mp ha).2

theorem Session.DataOK.setEnts {s : Session} (h : s.DataOK) {l : List Entity} {n : Nat} (hn : (l.map (·.id)).Nodup)
    (hr : ∀ e ∈ l, 0 < e.id ∧ e.id ≤ n) (hsub : s.ents.map (·.id) ⊆ l.map (·.id)) :
    ({ s with eidCur := n, ents := l } : Session).DataOK :=
  -- `{ h with .. }` re-types the invariant across the update: the clauses not listed read none of the fields that
  -- change, so they are the old ones by definitional unfolding
  { h with
    eids_nodup := hn
    eid_range := hr
    comp_ent := fun c m => find_key_isSome_mono hsub (h.comp_ent c m)
    act_ent := fun a m => find_key_isSome_mono hsub (h.act_ent a m)
    asset_ent := fun a m => find_key_isSome_mono hsub (h.asset_ent a m) }

theorem Session.DataOK.mapEnts {s : Session} (h : s.DataOK) {g : Entity → Entity} (hg : ∀ e ∈ s.ents, (g e).id = e.id) :
    ({ s with ents := s.ents.map g } : Session).DataOK :=
  have hk := map_map_of_key_eq (f := Entity.id) hg
  h.setEnts (hk ▸ h.eids_nodup) (List.forall_mem_map.mpr fun e m => hg e m ▸ h.eid_range e m) (hk ▸ List.Subset.refl _)

theorem Session.DataOK.mapComps {s : Session} (h : s.DataOK) {g : Comp → Comp}
    (hg : ∀ c ∈ s.comps, (g c).tid = c.tid ∧ (g c).eid = c.eid) : ({ s with comps := s.comps.map g } : Session).DataOK :=
  { h with
    comp_keys := map_map_of_key_eq (f := fun c : Comp => (c.tid, c.eid)) (fun c m => by rw [(hg c m).1, (hg c m).2]) ▸ h.comp_keys
    comp_ent := List.forall_mem_map.mpr fun c m => (hg c m).2 ▸ h.comp_ent c m
    comp_type := List.forall_mem_map.mpr fun c m => (hg c m).1 ▸ h.comp_type c m }

def Req.isEntityDelete : Req → Bool
  | .entityDelete .. => true
  | _ => false

theorem Session.SideEffect.inv {cfg : Cfg} {s : Session} {p : Part} {r : Req} {res : Res} (h : s.SideEffect cfg p r res)
    (hi : s.Inv cfg) : res.1.Inv cfg := by
  have ⟨hd, hv, ho⟩ := hi
  cases h
  case answered => exact hi
  case actionsDropped => exact hi.sub ⟨.refl _, .refl _, List.filter_sublist, .refl _, rfl, rfl, rfl, rfl, fun _ h _ => h⟩
  case assetsDropped => exact hi.sub ⟨.refl _, .refl _, .refl _, List.filter_sublist, rfl, rfl, rfl, rfl, fun _ h _ => h⟩
  case action a hcv hok =>
    refine ⟨?_, fun h => absurd (hcv.symm.trans h) (by decide), ho⟩
    have he := actionOk_entity hok
    rw [Session.setAction_upsert]
    exact { hd with
      act_ent := forall_mem_upsert hd.act_ent he
      act_keys := nodup_map_upsert hd.act_keys }
  case assetAdd assetId _ e hco _ he _ =>
    refine ⟨?_, hv, fun h => absurd (hco.symm.trans h) (by decide)⟩
    rw [Session.setAsset_upsert]
    -- the counter has numbered the assets so far: its next value is a new id
    exact { hd with
      asset_ent := forall_mem_upsert hd.asset_ent (findEnt_isSome_of_some he)
      asset_eids := nodup_map_upsert hd.asset_eids
      asset_ids := nodup_map_upsert_of_fresh hd.asset_eids hd.asset_ids fun b m => Nat.ne_of_lt (Nat.lt_succ_of_le (hd.asset_range b m).2)
      asset_range := forall_mem_upsert (fun b m => ⟨(hd.asset_range b m).1, Nat.le_succ_of_le (hd.asset_range b m).2⟩)
        ⟨Nat.succ_pos _, Nat.le_refl _⟩ }
  case quads => exact ⟨{ hd with }, hv, ho⟩

theorem Session.modules_Inv (cfg : Cfg) {s : Session} (h : s.Inv cfg) (p : Part) (r : Req) : (s.modules cfg p r).1.Inv cfg :=
  Session.modules_induction (Q := fun t res => t.Inv cfg → res.1.Inv cfg) cfg p r (fun h1 h2 h => h2 (h1 h))
    (fun _ _ he => he.inv) s h

/-- not the entity delete: its core handler leaves the attachments of the entity to the modules, so the invariant holds
    again only once the module pass is through (`entityDelete_inv`) -/
theorem Session.Effect.inv {cfg : Cfg} {s : Session} {p : Part} {r : Req} {g : Cfg → Res}
    (h : s.Effect cfg p r g) (hnd : r.isEntityDelete = false) (hi : s.Inv cfg) : (g cfg).1.Inv cfg := by
  have ⟨hd, hv, ho⟩ := hi
  cases h
  case side h => exact h.inv hi
  case entityDelete => cases hnd
  case compDelete => exact hi.sub ⟨.refl _, List.filter_sublist, .refl _, .refl _, rfl, rfl, rfl, rfl, fun _ h _ => h⟩
  all_goals refine ⟨?_, hv, ho⟩
  case entityAdd =>
    exact hd.setEnts (nodup_map_concat_succ hd.eids_nodup hd.eid_range rfl) (range_concat_succ hd.eid_range rfl)
      (List.map_subset _ (List.subset_append_left ..))
  case updatePose => exact hd.mapEnts fun e _ => by split <;> rfl
  case typeAdd name hn =>
    exact { hd with
      tids_nodup := nodup_map_concat_succ hd.tids_nodup hd.tid_range rfl
      names_nodup := nodup_map_concat hd.names_nodup fun b m heq =>
        List.find?_eq_none.mp (Option.map_eq_none_iff.mp hn) b m (beq_iff_eq.mpr heq)
      tid_range := range_concat_succ hd.tid_range rfl
      comp_type := fun c m => (typeName_isSome_iff _ _).mpr <|
        ((typeName_isSome_iff s _).mp (hd.comp_type c m)).imp fun _ ⟨hy, e⟩ => ⟨List.mem_append_left _ hy, e⟩ }
  case compAdd tid _ data e he ht hc =>
    exact { hd with
      comp_keys := nodup_map_concat hd.comp_keys fun b m heq => List.find?_eq_none.mp hc b m (by simpa using heq)
      comp_ent := forall_mem_concat hd.comp_ent (findEnt_isSome_of_some he)
      comp_type := forall_mem_concat hd.comp_type ht }
  case compUpdate =>
    refine hd.mapComps fun c _ => ?_
    split
    next h =>
      rw [Bool.and_eq_true, beq_iff_eq, beq_iff_eq] at h
      exact ⟨h.1.symm, h.2.symm⟩
    · exact ⟨rfl, rfl⟩
  all_goals exact { hd with }

theorem findEnt_with_actions (t : Session) (l : List Action) (x : Nat) :
    ({ t with actions := l } : Session).findEnt x = t.findEnt x := rfl
theorem findEnt_with_assets (t : Session) (l : List Asset) (x : Nat) :
    ({ t with assets := l } : Session).findEnt x = t.findEnt x := rfl

theorem Session.Effect.entityDelete_inv {cfg : Cfg} {s : Session} {p : Part} {rid ots eid : Nat} {g : Cfg → Res}
    (h : s.Effect cfg p (.entityDelete rid ots eid) g) (hi : s.Inv cfg) :
    (Res.andThen (g cfg) fun t => t.modules cfg p (.entityDelete rid ots eid)).1.Inv cfg := by
  cases h
  case side h =>
    exact Res.andThen_induction (Q := fun t res => t.Inv cfg → res.1.Inv cfg) (fun h1 h2 h => h2 (h1 h)) h.inv
      (fun _ ht => Session.modules_Inv cfg ht p _) hi
  case entityDelete e _ he =>
    obtain ⟨_, rfl⟩ := findEnt_some_mem he
    rw [Res.andThen_ok, Session.modules_entityDelete, if_pos (by simp [Session.findEnt])]
    exact hi.removeEnts (·.id != e.id) (· == e.id) fun _ _ h => congrArg not h

theorem Session.handle_Inv (cfg : Cfg) {s : Session} (h : s.Inv cfg) (p : Part) (r : Req) (hint : Nat) :
    (s.handle cfg p r hint).1.Inv cfg := by
  cases hnd : r.isEntityDelete
  case true =>
    cases r <;> cases hnd
    exact (s.core_effect cfg p hint _).entityDelete_inv h
  case false =>
    exact Session.handle_induction (Q := fun t res => t.Inv cfg → res.1.Inv cfg) cfg p r hint (fun h1 h2 h => h2 (h1 h))
      (fun _ _ he => he.inv hnd) s h

theorem Session.leave_Inv (cfg : Cfg) {s : Session} (h : s.Inv cfg) (pid : Nat) : (s.leave cfg pid).1.Inv cfg := by
  have key := h.removeEnts (fun e => !(e.owner == pid && !e.persist)) (((s.doomed pid).map (·.id)).contains ·)
    fun e he hdead => by
      cases hk : (e.owner == pid && !e.persist)
      · rfl
      · simp only [List.contains_eq_mem, decide_eq_false_iff_not] at hdead
        exact absurd (List.mem_map_of_mem (List.mem_filter.mpr ⟨he, hk⟩)) hdead
  -- what `leave` does besides is to `subs`, `parts` and `lats`, and `DataOK` reads none of them
  exact ⟨{ key.1 with }, key.2⟩

theorem Session.addPart_Inv (cfg : Cfg) {s : Session} (h : s.Inv cfg) (c : Nat) : (s.addPart c).1.Inv cfg :=
  ⟨{ h.1 with }, h.2⟩

theorem Session.Inv_fresh (cfg : Cfg) (id uuid : Nat) : ({ id, uuid } : Session).Inv cfg :=
  ⟨Session.DataOK_fresh id uuid, fun _ => rfl, fun _ => rfl⟩

def Server.AllInv (cfg : Cfg) (srv : Server) : Prop := ∀ s ∈ srv.sessions, s.Inv cfg

theorem Server.AllInv_init (cfg : Cfg) : (({} : Server)).AllInv cfg := by
  intro s hs; simp at hs

theorem Server.handleReq_AllInv (cfg : Cfg) {srv : Server} (h : srv.AllInv cfg) (c : Nat) (r : Req) (hint : Nat) :
    (srv.handleReq cfg c r hint).1.AllInv cfg :=
  Server.handleReq_sessions (fun _ p hs => Session.handle_Inv cfg hs p r hint) (fun _ pid hs => Session.leave_Inv cfg hs pid)
    (fun _ c hs => Session.addPart_Inv cfg hs c) (Session.Inv_fresh cfg) h

theorem Server.disconnect_AllInv (cfg : Cfg) {srv : Server} (h : srv.AllInv cfg) (c : Nat) : (srv.disconnect cfg c).1.AllInv cfg :=
  Server.disconnect_sessions (fun _ pid hs => Session.leave_Inv cfg hs pid) h c

theorem step_AllInv (cfg : Cfg) {srv : Server} (h : srv.AllInv cfg) (e : Event) : (step cfg srv e).1.AllInv cfg :=
  step_invariant (P := Server.AllInv cfg) cfg (fun h hs _ _ _ => by unfold Server.AllInv; rw [hs]; exact h) (fun c r hint h => Server.handleReq_AllInv cfg h c r hint)
    (fun c h => Server.disconnect_AllInv cfg h c) h e

/-- every session of every state reachable by any history satisfies the session invariant -/
theorem run_AllInv (cfg : Cfg) (h : List Event) {srv : Server} (hw : srv.AllInv cfg) : (run cfg srv h).1.AllInv cfg :=
  run_invariant (P := Server.AllInv cfg) cfg (fun e h => step_AllInv cfg h e) h hw

theorem run_DataOK (cfg : Cfg) (h : List Event) : ∀ s ∈ (run cfg {} h).1.sessions, s.DataOK :=
  fun s hs => (run_AllInv cfg h (Server.AllInv_init cfg) s hs).1

end Hagall
