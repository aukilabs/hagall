/-
  `Res.andThen`; the requests to which no module reacts, which the core handler alone decides (`handle_eq_core`);
  the entity delete request in closed form.
-/
import Hagall.Proofs.Basic
namespace Hagall

theorem Res.andThen_ok (s : Session) (ds : List Delivery) (f : Session → Res) :
    Res.andThen (s, ds, .ok) f = ((f s).1, ds ++ (f s).2.1, (f s).2.2) := by
  rcases h : f s with ⟨a, b, c⟩
  simp [Res.andThen, h]

theorem Res.andThen_connError (s : Session) (ds : List Delivery) (f : Session → Res) :
    Res.andThen (s, ds, .connError) f = (s, ds, .connError) := rfl

theorem Res.andThen_panic (s : Session) (ds : List Delivery) (x : String) (f : Session → Res) :
    Res.andThen (s, ds, .panic x) f = (s, ds, .panic x) := rfl

theorem Session.modules_noop (cfg : Cfg) (s : Session) (p : Part) (r : Req)
    (hv : cfg.vikja = true → s.vikja p r = (s, [], .ok))
    (ho : cfg.odal = true → s.odal p r = (s, [], .ok))
    (hd : cfg.dagaz = true → s.dagaz p r = (s, [], .ok)) :
    s.modules cfg p r = (s, [], .ok) := by
  simp only [Session.modules, Res.andThen_ok, ite_eq_right_iff.mpr hv, ite_eq_right_iff.mpr ho, ite_eq_right_iff.mpr hd,
    List.append_nil]

theorem Session.dagaz_noop (s : Session) (p : Part) (r : Req)
    (h : match r with
      | .quadSample .. | .groundPlane .. | .region .. | .debugInfo .. | .undecodable .. => False
      | _ => True) : s.dagaz p r = (s, [], .ok) := by
  unfold Session.dagaz
  split
  · exact h.elim
  · exact h.elim
  · exact h.elim
  · exact h.elim
  · exact h.elim
  · rfl

theorem Session.vikja_noop (s : Session) (p : Part) (r : Req)
    (h : match r with
      | .entityDelete .. | .action .. | .undecodable .. => False
      | _ => True) : s.vikja p r = (s, [], .ok) := by
  unfold Session.vikja
  split
  · exact h.elim
  · exact h.elim
  · exact h.elim
  · rfl

theorem Session.odal_noop (s : Session) (p : Part) (r : Req)
    (h : match r with
      | .entityDelete .. | .assetAdd .. | .undecodable .. => False
      | _ => True) : s.odal p r = (s, [], .ok) := by
  unfold Session.odal
  split
  · exact h.elim
  · exact h.elim
  · exact h.elim
  · rfl

theorem Session.vikja_delete_present (s : Session) (p : Part) (rid ots eid : Nat) (e : Entity)
    (he : s.findEnt eid = some e) : s.vikja p (.entityDelete rid ots eid) = (s, [], .ok) := by
  simp [Session.vikja, he]

theorem Session.odal_delete_present (s : Session) (p : Part) (rid ots eid : Nat) (e : Entity)
    (he : s.findEnt eid = some e) : s.odal p (.entityDelete rid ots eid) = (s, [], .ok) := by
  simp [Session.odal, he]

theorem Session.modules_core_noop (cfg : Cfg) (s : Session) (p : Part) (r : Req)
    (h : match r with
      | .entityDelete .. | .action .. | .assetAdd .. | .quadSample .. | .groundPlane .. | .region ..
      | .debugInfo .. | .undecodable .. => False
      | _ => True) : s.modules cfg p r = (s, [], .ok) := by
  refine Session.modules_noop cfg s p r (fun _ => Session.vikja_noop s p r ?_) (fun _ => Session.odal_noop s p r ?_)
    (fun _ => Session.dagaz_noop s p r ?_)
  -- on a request the module reacts to, `h` is `False`; on any other the goal is `True`
  all_goals split <;> first | exact h | trivial

theorem Session.handle_eq_core (cfg : Cfg) (s : Session) (p : Part) (r : Req) (hint : Nat)
    (h : match r with
      | .entityDelete .. | .action .. | .assetAdd .. | .quadSample .. | .groundPlane .. | .region ..
      | .debugInfo .. | .undecodable .. => False
      | _ => True) : s.handle cfg p r hint = s.core cfg p r hint := by
  unfold Session.handle
  rcases hc : s.core cfg p r hint with ⟨s', ds, o⟩
  cases o
  · rw [Res.andThen_ok, Session.modules_core_noop cfg s' p r h]; simp
  · rfl
  · rfl

theorem Session.updatePose_dropped (cfg : Cfg) (s : Session) (p : Part) (ots eid : Nat) (pose : Option Nat)
    (h : s.findEnt eid = none ∨ (∃ e, s.findEnt eid = some e ∧ e.owner ≠ p.pid) ∨ pose = none) :
    s.updatePose cfg p ots eid pose = (s, [], .ok) := by
  unfold Session.updatePose
  rcases h with h | ⟨e, he, hne⟩ | rfl
  · rw [h]
  · rw [he]; exact if_pos (bne_iff_ne.mpr hne)
  · cases s.findEnt eid with
    | none => rfl
    | some e => dsimp only; split <;> rfl

/-- every broadcast written over the members before the departure: `leave` sends the last one over the list it has
    cut the leaver from, and `bcast pid` skips the leaver anyway -/
theorem Session.leave_deliveries (cfg : Cfg) (s : Session) (pid : Nat) :
    (s.leave cfg pid).2 =
      ((s.doomed pid).map (·.id)).flatMap (fun eid => gate cfg fEntityDelete (s.bcast pid (.entityDeleteBcast none eid)))
      ++ gate cfg fLeave (s.bcast pid (.leaveBcast pid)) := by
  simp only [Session.leave, Session.bcast, List.filter_filter, Bool.and_self]

/-! ### the entity delete request, in closed form

  The one request whose effect is spread over the core handler and the modules: the core removes the entity with
  its components, the hooks of the loaded modules then find it gone and drop what they hold for its id. -/

/-- what the delete hooks of the loaded modules drop for an id: the actions and the asset instance of the entity -/
def Session.dropAttached (cfg : Cfg) (s : Session) (eid : Nat) : Session :=
  { s with actions := if cfg.vikja then s.actions.filter (·.eid != eid) else s.actions,
           assets := if cfg.odal then s.assets.filter (·.eid != eid) else s.assets }

theorem Session.modules_entityDelete (cfg : Cfg) (t : Session) (p : Part) (rid ots eid : Nat) :
    t.modules cfg p (.entityDelete rid ots eid) =
      (if (t.findEnt eid).isNone then t.dropAttached cfg eid else t, [], .ok) := by
  cases he : t.findEnt eid with
  | some e =>
    exact Session.modules_noop cfg t p _ (fun _ => t.vikja_delete_present p rid ots eid e he)
      (fun _ => t.odal_delete_present p rid ots eid e he) (fun _ => rfl)
  | none =>
    have hf : ∀ l : List Action, ({ t with actions := l } : Session).findEnt eid = none := fun _ => he
    unfold Session.modules Session.dropAttached
    cases cfg.vikja <;> cases cfg.odal <;> simp [Res.andThen, Session.vikja, Session.odal, Session.dagaz, he, hf]

theorem Session.findEnt_removeEntity (s : Session) (eid : Nat) : (s.removeEntity eid).findEnt eid = none :=
  find_filter_key_ne (f := Entity.id) s.ents eid

/-- for an unknown entity the request is refused and the hooks run all the same: what the modules hold for the id
    goes -/
theorem Session.handle_entityDelete (cfg : Cfg) (s : Session) (p : Part) (rid ots eid hint : Nat) :
    s.handle cfg p (.entityDelete rid ots eid) hint =
      match s.findEnt eid with
      | none => (s.dropAttached cfg eid, [(p.conn, .error rid ecNotFound)], .ok)
      | some e =>
        if e.owner != p.pid then (s, [(p.conn, .error rid ecUnauthorized)], .ok)
        else ((s.removeEntity e.id).dropAttached cfg e.id,
              (p.conn, .entityDeleteResp rid) :: gate cfg fEntityDelete (s.bcast p.pid (.entityDeleteBcast (some ots) e.id)), .ok) := by
  unfold Session.handle
  dsimp only [Session.core, Session.entityDelete]
  cases he : s.findEnt eid with
  | none => simp [Res.andThen_ok, Session.modules_entityDelete, he]
  | some e =>
    have hid : e.id = eid := (find_key_some he).2
    by_cases ho : e.owner = p.pid
    · subst hid
      have hb : (e.owner != p.pid) = false := by simp [ho]
      simp only [hb, Bool.false_eq_true, if_false, Res.andThen_ok, Session.modules_entityDelete,
        Session.findEnt_removeEntity, Option.isNone_none, if_true, List.append_nil]
      rfl
    · simp [ho, Res.andThen_ok, Session.modules_entityDelete, he]

end Hagall
