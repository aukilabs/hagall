/-
  The server-level well-formedness invariant (registry, session-id generator, membership) and its
  preservation by every event: `WF init`, `WF srv → WF (step cfg srv e).1`.
-/
import Hagall.Proofs.Frame
namespace Hagall

structure Session.MembersOK (s : Session) : Prop where
  nonempty : s.parts ≠ []
  pids_nodup : (s.parts.map (·.pid)).Nodup
  conns_nodup : (s.parts.map (·.conn)).Nodup
  pid_pos : ∀ p ∈ s.parts, 0 < p.pid ∧ p.pid ≤ s.pidCur

/-- Registry, session-id generator and membership only; the data of a session is the other invariant (`Session.Inv`,
    `Server.AllInv`: Proofs/DataInv).  `uuidCur` stands for the UUIDs that `models.NewSession` draws (`uuid.New()`):
    that none is drawn twice is assumed, by making a new one the next value of a counter. -/
structure Server.WF (srv : Server) : Prop where
  ids_nodup : (srv.sessions.map (·.id)).Nodup
  members : ∀ s ∈ srv.sessions, s.MembersOK
  conn_unique : ∀ s1 ∈ srv.sessions, ∀ s2 ∈ srv.sessions, ∀ p1 ∈ s1.parts, ∀ p2 ∈ s2.parts,
      p1.conn = p2.conn → s1.id = s2.id
  id_range : ∀ s ∈ srv.sessions, 0 < s.id ∧ s.id ≤ srv.ids.cur ∧ s.id ∉ srv.ids.pool
  pool_nodup : srv.ids.pool.Nodup
  pool_range : ∀ x ∈ srv.ids.pool, 0 < x ∧ x ≤ srv.ids.cur
  gauge_eq : srv.gauge = srv.sessions.length
  uuid_range : ∀ s ∈ srv.sessions, 0 < s.uuid ∧ s.uuid ≤ srv.uuidCur
  uuid_nodup : (srv.sessions.map (·.uuid)).Nodup

theorem Server.WF_init : (({} : Server)).WF := by
  constructor <;> simp

/-! ### what it says of a connection: it is in one session, as one participant -/

theorem Server.locate_member {srv : Server} {x : Session} (h : srv.WF) (hx : x ∈ srv.sessions) {p : Part} (hp : p ∈ x.parts) :
    srv.locate p.conn = some (x, p) := by
  cases hl : srv.locate p.conn with
  | none => exact absurd rfl (Server.locate_none hl x hx p hp)
  | some sp =>
    obtain ⟨hs', hp', hc'⟩ := Server.locate_some hl
    obtain rfl := eq_of_nodup_map h.ids_nodup hs' hx (h.conn_unique _ hs' x hx _ hp' p hp hc')
    obtain rfl := eq_of_nodup_map (h.members _ hx).conns_nodup hp' hp hc'
    rfl

theorem disjoint_conns {srv : Server} {x s : Session} (h : srv.WF) (hx : x ∈ srv.sessions) (hs : s ∈ srv.sessions)
    (hne : x.id ≠ s.id) : ∀ a ∈ s.parts.map (·.conn), a ∉ x.parts.map (·.conn) := by
  intro a ha hm
  obtain ⟨q, hq, rfl⟩ := List.mem_map.mp ha
  obtain ⟨q', hq', hc⟩ := List.mem_map.mp hm
  exact hne (h.conn_unique x hx s hs q' hq' q hq hc)

theorem ne_of_located {srv : Server} {x s : Session} {c : Nat} {p : Part} (h : srv.WF) (hl : srv.locate c = some (s, p))
    (hx : x ∈ srv.sessions) (hcx : c ∉ x.parts.map (·.conn)) : x.id ≠ s.id := by
  obtain ⟨hs, hp, rfl⟩ := Server.locate_some hl
  exact fun e => hcx (eq_of_nodup_map h.ids_nodup hx hs e ▸ List.mem_map_of_mem hp)

theorem findSession_of_mem {srv : Server} (hn : (srv.sessions.map (·.id)).Nodup) {s : Session} (hs : s ∈ srv.sessions) :
    srv.findSession s.id = some s := find_of_nodup_map hn hs

theorem mem_setSession_self {srv : Server} {x x' : Session} (hx : x ∈ srv.sessions) (hid : x'.id = x.id) :
    x' ∈ (srv.setSession x').sessions :=
  (mem_replace_key (f := Session.id)).mpr (.inr ⟨rfl, x, hx, hid.symm⟩)

theorem setSession_other {srv : Server} {x s' : Session} (hx : x ∈ srv.sessions) (hne : x.id ≠ s'.id) :
    x ∈ (srv.setSession s').sessions :=
  (mem_replace_key (f := Session.id)).mpr (.inl ⟨hx, hne⟩)

theorem Server.setSession_replace_WF {srv : Server} (h : srv.WF) {s s' : Session} (hs : s ∈ srv.sessions)
    (hid : s'.id = s.id) (huu : s'.uuid = s.uuid) (hm : s'.MembersOK)
    (hconn : ∀ x ∈ srv.sessions, x.id ≠ s.id → ∀ q ∈ x.parts, ∀ q' ∈ s'.parts, q.conn ≠ q'.conn) :
    (srv.setSession s').WF :=
  -- `{ h with .. }` re-types the invariant across the update: the clauses not listed (those of the id generator) read
  -- none of the fields that change, so they are the old ones by definitional unfolding
  { h with
    ids_nodup := (map_replace_key (f := Session.id) (a := s')).symm ▸ h.ids_nodup
    members := Server.setSession_sessions h.members hm
    conn_unique := forall_mem_replace_key
      (fun x hx n => forall_mem_replace_key (fun y hy _ => h.conn_unique x hx y hy)
        fun q hq q' hq' e => absurd e (hconn x hx (hid ▸ n) q hq q' hq'))
      (forall_mem_replace_key (fun y hy n q' hq' q hq e => absurd e.symm (hconn y hy (hid ▸ n) q hq q' hq'))
        fun _ _ _ _ _ => rfl)
    id_range := Server.setSession_sessions h.id_range (hid ▸ h.id_range s hs)
    gauge_eq := by simp only [Server.setSession, List.length_map]; exact h.gauge_eq
    uuid_range := Server.setSession_sessions h.uuid_range (huu ▸ h.uuid_range s hs)
    uuid_nodup := by
      -- ids are unique: the record that makes way is `s`
      have : (srv.setSession s').sessions.map (·.uuid) = srv.sessions.map (·.uuid) :=
        map_map_of_key_eq fun y hy => by
          split
          next e => rw [huu, eq_of_nodup_map h.ids_nodup hy hs ((eq_of_beq e).trans hid)]
          · rfl
      exact this ▸ h.uuid_nodup }

theorem Server.setSession_shrink_WF {srv : Server} (h : srv.WF) {s s' : Session} (hs : s ∈ srv.sessions)
    (hid : s'.id = s.id) (huu : s'.uuid = s.uuid) (hpc : s'.pidCur = s.pidCur)
    (hsub : s'.parts.Sublist s.parts) (hne : s'.parts ≠ []) : (srv.setSession s').WF :=
  have hm := h.members s hs
  Server.setSession_replace_WF h hs hid huu
    ⟨hne, (hsub.map _).nodup hm.pids_nodup, (hsub.map _).nodup hm.conns_nodup, fun q hq => hpc ▸ hm.pid_pos q (hsub.subset hq)⟩
    fun x hx hne' q hq q' hq' hc => hne' (h.conn_unique x hx s hs q hq q' (hsub.subset hq') hc)

theorem Server.setSession_WF {srv : Server} (h : srv.WF) {s s' : Session} (hs : s ∈ srv.sessions)
    (hm : s.sameMembers s') : (srv.setSession s').WF :=
  have ⟨hid, huu, hpc, hparts⟩ := hm
  Server.setSession_shrink_WF h hs hid huu hpc (hparts ▸ .refl _) (hparts ▸ (h.members s hs).nonempty)

@[simp] theorem IdGen.reuse_cur (g : IdGen) (x : Nat) : (g.reuse x).cur = g.cur := by
  unfold IdGen.reuse; split <;> rfl

theorem IdGen.mem_reuse_pool (g : IdGen) (x y : Nat) : y ∈ (g.reuse x).pool ↔ y ∈ g.pool ∨ y = x := by
  unfold IdGen.reuse
  split
  next h => exact ⟨Or.inl, fun h' => h'.elim id fun e => e ▸ by simpa using h⟩
  · simp

theorem IdGen.reuse_pool_nodup (g : IdGen) (x : Nat) (h : g.pool.Nodup) : (g.reuse x).pool.Nodup := by
  unfold IdGen.reuse
  split
  · exact h
  next hx => exact nodup_concat h (by simpa using hx)

theorem IdGen.reuse_pool_range {g : IdGen} {i : Nat} (h : ∀ x ∈ g.pool, 0 < x ∧ x ≤ g.cur) (hi : 0 < i ∧ i ≤ g.cur) :
    ∀ x ∈ (g.reuse i).pool, 0 < x ∧ x ≤ (g.reuse i).cur := fun x hx => by
  rw [IdGen.reuse_cur]
  rcases (IdGen.mem_reuse_pool ..).mp hx with hx | rfl
  · exact h x hx
  · exact hi

theorem IdGen.reuse_in_use {g : IdGen} {i j : Nat} (h : 0 < j ∧ j ≤ g.cur ∧ j ∉ g.pool) (hne : j ≠ i) :
    0 < j ∧ j ≤ (g.reuse i).cur ∧ j ∉ (g.reuse i).pool :=
  ⟨h.1, (g.reuse_cur i).symm ▸ h.2.1, fun m => ((g.mem_reuse_pool i j).mp m).elim h.2.2 hne⟩

/-- while the counter grows and the pool shrinks (`new_fresh`), a number in use stays in use and the pool stays in range -/
theorem IdGen.in_use_mono {g g' : IdGen} (hcur : g.cur ≤ g'.cur) (hpool : g'.pool.Sublist g.pool) {i : Nat}
    (h : 0 < i ∧ i ≤ g.cur ∧ i ∉ g.pool) : 0 < i ∧ i ≤ g'.cur ∧ i ∉ g'.pool :=
  ⟨h.1, Nat.le_trans h.2.1 hcur, fun m => h.2.2 (hpool.subset m)⟩

theorem IdGen.pool_range_mono {g g' : IdGen} (hcur : g.cur ≤ g'.cur) (hpool : g'.pool.Sublist g.pool)
    (h : ∀ x ∈ g.pool, 0 < x ∧ x ≤ g.cur) : ∀ x ∈ g'.pool, 0 < x ∧ x ≤ g'.cur :=
  fun x hx => ⟨(h x (hpool.subset hx)).1, Nat.le_trans (h x (hpool.subset hx)).2 hcur⟩

theorem IdGen.new_spec (g : IdGen) (hint : Nat) :
    ((g.new hint).1 ∈ g.pool ∧ (g.new hint).2.pool = g.pool.filter (· != (g.new hint).1) ∧ (g.new hint).2.cur = g.cur) ∨
    (g.pool = [] ∧ (g.new hint).1 = g.cur + 1 ∧ (g.new hint).2.cur = g.cur + 1 ∧ (g.new hint).2.pool = []) := by
  unfold IdGen.new
  cases hp : g.pool with
  | nil => right; simp
  | cons x xs =>
    left
    refine ⟨?_, rfl, rfl⟩
    simp only []
    split
    · rename_i h; simpa using h
    · simp

/-- the number handed out counts as in use afterwards and did not before (it comes from the pool or is above the
    counter); the pool only shrinks, the counter only grows -/
theorem IdGen.new_fresh {g g' : IdGen} {hint id : Nat} (hnew : g.new hint = (id, g')) (hr : ∀ x ∈ g.pool, 0 < x ∧ x ≤ g.cur) :
    (0 < id ∧ id ≤ g'.cur ∧ id ∉ g'.pool) ∧ g.cur ≤ g'.cur ∧ g'.pool.Sublist g.pool ∧ ∀ y ≤ g.cur, y ∉ g.pool → y ≠ id := by
  have := g.new_spec hint
  simp only [hnew] at this
  rcases this with ⟨hin, hpool, hcur⟩ | ⟨_, hid, hcur, hpool⟩
  · exact ⟨⟨(hr id hin).1, hcur ▸ (hr id hin).2, by simp [hpool]⟩, Nat.le_of_eq hcur.symm, hpool ▸ List.filter_sublist, fun y _ hn e => hn (e ▸ hin)⟩
  · subst hid
    exact ⟨⟨Nat.succ_pos _, Nat.le_of_eq hcur.symm, by simp [hpool]⟩, hcur ▸ Nat.le_succ _, by simp [hpool],
      fun y hy _ e => Nat.not_succ_le_self _ (e ▸ hy)⟩

theorem Session.mem_leave_parts {cfg : Cfg} {s : Session} {pid : Nat} {q : Part} :
    q ∈ (s.leave cfg pid).1.parts ↔ q ∈ s.parts ∧ q.pid ≠ pid := by
  unfold Session.leave
  rw [List.mem_filter, bne_iff_ne]

theorem leaver_gone (cfg : Cfg) {x : Session} (hc : (x.parts.map (·.conn)).Nodup) {p : Part} (hp : p ∈ x.parts) :
    p.conn ∉ (x.leave cfg p.pid).1.parts.map (·.conn) := by
  intro hm
  obtain ⟨r, hr, hrc⟩ := List.mem_map.mp hm
  have hr := Session.mem_leave_parts.mp hr
  exact hr.2 (congrArg Part.pid (eq_of_nodup_map hc hr.1 hp hrc))

theorem leave_of_remaining {cfg : Cfg} {srv : Server} {s : Session} {p : Part} (h : (s.leave cfg p.pid).1.parts ≠ []) :
    srv.leave cfg s p = (srv.setSession (s.leave cfg p.pid).1, (s.leave cfg p.pid).2) :=
  Prod.ext (by rw [Server.leave_fst, if_neg (by simpa using h)]) (Server.leave_snd ..)

theorem Server.leave_WF (cfg : Cfg) {srv : Server} (h : srv.WF) {s : Session} {p : Part} (hs : s ∈ srv.sessions) :
    (srv.leave cfg s p).1.WF := by
  rw [Server.leave_fst]
  split
  · -- the session ends: it leaves the registry, its number goes back to the pool
    have hr := h.id_range s hs
    have hsub : (srv.sessions.filter (·.id != s.id)).Sublist srv.sessions := List.filter_sublist
    exact { h with
      ids_nodup := (hsub.map _).nodup h.ids_nodup
      members := fun x hx => h.members x (hsub.subset hx)
      conn_unique := fun x1 hx1 x2 hx2 => h.conn_unique x1 (hsub.subset hx1) x2 (hsub.subset hx2)
      id_range := fun x hx =>
        have ⟨m, n⟩ := List.mem_filter.mp hx
        IdGen.reuse_in_use (h.id_range x m) (bne_iff_ne.mp n)
      pool_nodup := IdGen.reuse_pool_nodup _ _ h.pool_nodup
      pool_range := IdGen.reuse_pool_range h.pool_range ⟨hr.1, hr.2.1⟩
      gauge_eq := by
        have := length_filter_of_nodup_map h.ids_nodup hs
        simp only [h.gauge_eq]
        omega
      uuid_range := fun x hx => h.uuid_range x (hsub.subset hx)
      uuid_nodup := (hsub.map _).nodup h.uuid_nodup }
  next hne => exact Server.setSession_shrink_WF h hs rfl rfl rfl List.filter_sublist fun hnil => hne (hnil ▸ rfl)

theorem Session.MembersOK.addPart {s : Session} (hm : s.MembersOK) {c : Nat} (hc : ∀ q ∈ s.parts, q.conn ≠ c) :
    (s.addPart c).1.MembersOK :=
  ⟨by simp [Session.addPart], nodup_map_concat_succ hm.pids_nodup hm.pid_pos rfl, nodup_map_concat hm.conns_nodup hc,
    range_concat_succ hm.pid_pos rfl⟩

theorem Server.addSession_WF {srv : Server} (h : srv.WF) {s' : Session} {g : IdGen} (hm : s'.MembersOK)
    (hconn : ∀ x ∈ srv.sessions, ∀ q ∈ x.parts, ∀ q' ∈ s'.parts, q.conn ≠ q'.conn)
    (huu : s'.uuid = srv.uuidCur + 1) (hid : ∀ x ∈ srv.sessions, x.id ≠ s'.id)
    (hs' : 0 < s'.id ∧ s'.id ≤ g.cur ∧ s'.id ∉ g.pool) (hcur : srv.ids.cur ≤ g.cur) (hpool : g.pool.Sublist srv.ids.pool) :
    ({ srv with ids := g, uuidCur := srv.uuidCur + 1, sessions := srv.sessions ++ [s'], gauge := srv.gauge + 1 } : Server).WF where
  ids_nodup := nodup_map_concat h.ids_nodup hid
  members := forall_mem_concat h.members hm
  conn_unique := forall_mem_concat
    (fun x hx => forall_mem_concat (h.conn_unique x hx) fun q hq q' hq' e => absurd e (hconn x hx q hq q' hq'))
    (forall_mem_concat (fun y hy q' hq' q hq e => absurd e.symm (hconn y hy q hq q' hq')) fun _ _ _ _ _ => rfl)
  id_range := forall_mem_concat (fun x hx => IdGen.in_use_mono hcur hpool (h.id_range x hx)) hs'
  pool_nodup := hpool.nodup h.pool_nodup
  pool_range := IdGen.pool_range_mono hcur hpool h.pool_range
  gauge_eq := by simp [h.gauge_eq]
  uuid_range := range_concat_succ h.uuid_range huu
  uuid_nodup := nodup_map_concat_succ h.uuid_nodup h.uuid_range huu

theorem Server.joinFresh_WF (cfg : Cfg) {srv : Server} (h : srv.WF) (c rid ots : Nat) (target : JoinTarget) (hint : Nat)
    (hfresh : ∀ x ∈ srv.sessions, ∀ q ∈ x.parts, q.conn ≠ c) : (srv.joinFresh cfg c rid ots target hint).1.WF := by
  refine Server.joinFresh_cases (motive := fun res => res.1.WF) cfg srv c rid ots target hint (fun _ => h)
    (fun s _ hs _ => ?_) (fun _ => ?_)
  · exact Server.setSession_replace_WF h hs rfl rfl ((h.members s hs).addPart (hfresh s hs)) fun x hx hne q hq =>
      forall_mem_concat (fun q' hq' e => hne (h.conn_unique x hx s hs q hq q' hq' e)) (hfresh x hx q hq)
  · rcases hnew : srv.ids.new hint with ⟨id, g⟩
    obtain ⟨hs', hcur, hpool, hfr⟩ := IdGen.new_fresh hnew h.pool_range
    exact Server.addSession_WF h
      ⟨List.cons_ne_nil _ _, List.pairwise_singleton .., List.pairwise_singleton ..,
        fun p hp => List.mem_singleton.mp hp ▸ ⟨Nat.succ_pos _, Nat.le_refl _⟩⟩
      (fun x hx q hq => forall_mem_concat (fun _ m => nomatch m) (hfresh x hx q hq)) rfl
      (fun x hx => hfr _ (h.id_range x hx).2.1 (h.id_range x hx).2.2) hs' hcur hpool

theorem Server.leave_removes_conn (cfg : Cfg) {srv : Server} (h : srv.WF) {c : Nat} {s : Session} {p : Part}
    (hl : srv.locate c = some (s, p)) :
    ∀ x ∈ (srv.leave cfg s p).1.sessions, ∀ q ∈ x.parts, q.conn ≠ c := by
  obtain ⟨hs, hp, hpc⟩ := Server.locate_some hl
  -- the connection is in no other session, and `p` is its only participant in this one
  have hother : ∀ x ∈ srv.sessions, x.id ≠ s.id → ∀ q ∈ x.parts, q.conn ≠ c :=
    fun x hx hne q hq hqc => hne (h.conn_unique x hx s hs q hq p hp (hqc.trans hpc.symm))
  rw [Server.leave_fst]
  split
  · exact fun x hx => have ⟨m, n⟩ := List.mem_filter.mp hx; hother x m (by simpa using n)
  · exact forall_mem_replace_key hother fun q hq hqc =>
      leaver_gone cfg (h.members s hs).conns_nodup hp (hpc ▸ hqc ▸ List.mem_map_of_mem hq)

theorem Server.join_WF (cfg : Cfg) {srv : Server} (h : srv.WF) (c rid ots : Nat) (target : JoinTarget) (hint : Nat) :
    (srv.join cfg c rid ots target hint).1.WF :=
  Server.join_cases (motive := fun res => res.1.WF) cfg srv c rid ots target hint
    (fun hl => Server.joinFresh_WF cfg h c rid ots target hint (Server.locate_none hl)) (fun _ _ => h)
    (fun _ _ hl _ => Server.joinFresh_WF cfg (Server.leave_WF cfg h (Server.locate_some hl).1) c rid ots target hint
      (Server.leave_removes_conn cfg h hl))

theorem Server.handleReq_WF (cfg : Cfg) {srv : Server} (h : srv.WF) (c : Nat) (r : Req) (hint : Nat) :
    (srv.handleReq cfg c r hint).1.WF :=
  Server.handleReq_cases (motive := fun res => res.1.WF) cfg srv c r hint (fun _ _ => h)
    (fun rid ots t _ => Server.join_WF cfg h c rid ots t hint)
    (fun _ _ _ _ _ _ => h) (fun _ _ _ _ _ _ => { h with }) (fun _ => h)
    (fun s p hl => Server.setSession_WF h (Server.locate_some hl).1 (s.handle_sameMembers cfg p r hint))

/-- membership well-formedness does not look at connections, queues or receipts -/
theorem Server.WF_of_sessions_eq {a b : Server} (h : a.WF) (hs : b.sessions = a.sessions) (hi : b.ids = a.ids)
    (hg : b.gauge = a.gauge) (hu : b.uuidCur = a.uuidCur) : b.WF where
  ids_nodup := hs ▸ h.ids_nodup
  members := hs ▸ h.members
  conn_unique := hs ▸ h.conn_unique
  id_range := hs ▸ hi ▸ h.id_range
  pool_nodup := hi ▸ h.pool_nodup
  pool_range := hi ▸ h.pool_range
  gauge_eq := hs ▸ hg ▸ h.gauge_eq
  uuid_range := hs ▸ hu ▸ h.uuid_range
  uuid_nodup := hs ▸ h.uuid_nodup

theorem Server.disconnect_WF (cfg : Cfg) {srv : Server} (h : srv.WF) (c : Nat) : (srv.disconnect cfg c).1.WF := by
  unfold Server.disconnect
  cases hl : srv.locate c with
  | none => exact { h with }
  | some sp => exact Server.WF_of_sessions_eq (Server.leave_WF cfg h (p := sp.2) (Server.locate_some hl).1) rfl rfl rfl rfl

theorem step_WF (cfg : Cfg) {srv : Server} (h : srv.WF) (e : Event) : (step cfg srv e).1.WF :=
  step_invariant (P := Server.WF) cfg Server.WF_of_sessions_eq (fun c r hint h => Server.handleReq_WF cfg h c r hint)
    (fun c h => Server.disconnect_WF cfg h c) h e

/-- every state reachable by any history from a well-formed server (the initial one is: `Server.WF_init`) is
    well-formed -/
theorem run_WF (cfg : Cfg) (h : List Event) {srv : Server} (hw : srv.WF) : (run cfg srv h).1.WF :=
  run_invariant (P := Server.WF) cfg (fun e h => step_WF cfg h e) h hw

end Hagall
