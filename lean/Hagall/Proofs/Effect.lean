/-
  What a request can do to a session, in normal form.

  `Session.core` and the three module handlers are decision lists: a request is validated step by step and
  then either refused (the session stays as it is, the sender is answered) or carried out in one of a few
  ways.  `Session.Effect` lists those ways with the session afterwards and the deliveries written out (but for the
  latency handlers, of which only the shape matters: a new `lats`, answers to the sender), and
  `core_effect` / `vikja_effect` / `odal_effect` / `dagaz_effect` say that this is all a handler does.
  A fact about every request is proved by cases on the effect; `Session.handle_induction` carries it
  through the whole `handleMessage` path.

  The result is indexed as a function of the configuration: the feature flags reach a handler only through
  `gate`, so one effect describes the handler under every flag set (what C17 needs).
-/
import Hagall.Proofs.Handle
namespace Hagall

def Answers (c : Nat) (ds : List Delivery) : Prop := ∀ d ∈ ds, d.1 = c ∧ d.2.flagClass = none

theorem Answers.nil {c : Nat} : Answers c [] := fun _ h => nomatch h

theorem Answers.unflagged {c : Nat} {ds : List Delivery} (h : Answers c ds) : ∀ d ∈ ds, d.2.flagClass = none :=
  fun d hd => (h d hd).2

theorem Answers.cons {c : Nat} {m : Out} {ds : List Delivery} (hm : m.flagClass = none) (h : Answers c ds) :
    Answers c ((c, m) :: ds) :=
  List.forall_mem_cons.2 ⟨⟨rfl, hm⟩, h⟩

theorem Answers.one {c : Nat} {m : Out} (hm : m.flagClass = none) : Answers c [(c, m)] := .cons hm .nil

theorem Answers.append {c : Nat} {a b : List Delivery} (ha : Answers c a) (hb : Answers c b) : Answers c (a ++ b) :=
  List.forall_mem_append.2 ⟨ha, hb⟩

theorem Answers.abandoned (s : Session) (p : Part) : Answers p.conn (s.abandoned p) := by
  unfold Session.abandoned
  split
  · exact .one rfl
  · exact .nil

theorem notJoined_induction {P : List Delivery → Prop} (c : Nat) (r : Req) (nil : P []) (one : ∀ rid code, P [(c, .error rid code)]) :
    P (notJoined c r).1 := by
  have ite : ∀ {b : Bool} {x y : List Delivery × Outcome}, P x.1 → P y.1 → P (if b then x else y).1 := by
    intro b _ _ hx hy; cases b; exact hy; exact hx
  cases r
  case pingResp | signedLatency => exact one _ _
  case typeAdd | typeGetName | typeGetId | compAdd | compDelete | compList | subscribe | unsubscribe => exact ite (one _ _) nil
  case compUpdate => exact ite nil nil
  all_goals exact nil

theorem notJoined_answers (c : Nat) (r : Req) : Answers c (notJoined c r).1 :=
  notJoined_induction c r .nil fun _ _ => .one rfl

/-- What a request can do without touching the core of the session (participants, entities, component store,
    measurements): be refused or merely answered, or change the state of a module that is loaded.  This is all a
    module handler ever does (`vikja_effect`, `odal_effect`, `dagaz_effect`). -/
inductive Session.SideEffect (cfg : Cfg) (s : Session) (p : Part) : Req → Res → Prop
  | answered {r ds o} (h : Answers p.conn ds) : SideEffect cfg s p r (s, ds, o)
  | actionsDropped {rid ots eid} (hv : cfg.vikja = true) (he : s.findEnt eid = none) :
      SideEffect cfg s p (.entityDelete rid ots eid) ({ s with actions := s.actions.filter (·.eid != eid) }, [], .ok)
  | action {rid ots a} (hv : cfg.vikja = true) (hok : s.actionOk a = true) :
      SideEffect cfg s p (.action rid ots (some a))
        ({ s with actions := (s.setAction a).actions },
         (p.conn, .actionResp rid) :: s.bcast p.pid (.actionBcast ots a), .ok)
  | assetsDropped {rid ots eid} (ho : cfg.odal = true) (he : s.findEnt eid = none) :
      SideEffect cfg s p (.entityDelete rid ots eid) ({ s with assets := s.assets.filter (·.eid != eid) }, [], .ok)
  | assetAdd {rid ots assetId eid e} (ho : cfg.odal = true) (hid : assetId ≠ "") (he : s.findEnt eid = some e)
      (hown : e.owner = p.pid) :
      SideEffect cfg s p (.assetAdd rid ots assetId eid)
        ({ s with assetCur := s.assetCur + 1, assets := (s.setAsset ⟨s.assetCur + 1, assetId, p.pid, e.id⟩).assets },
         (p.conn, .assetAddResp rid (s.assetCur + 1)) ::
           s.bcast p.pid (.assetAddBcast ots ⟨s.assetCur + 1, assetId, p.pid, e.id⟩), .ok)
  | quads {qs} (hd : cfg.dagaz = true) : SideEffect cfg s p (.quadSample qs) ({ s with quads := s.quads ++ qs }, [], .ok)

/-- The ways in which a request `r` of participant `p` can end.  Every relay is written as a broadcast over
    the session before the request: no handler changes the participants.  Two configurations are in play: the
    parameter `cfg` says which modules are loaded (only `side` reads it); the index is a function of the configuration
    `cfg'` whose flags the gates read.  `handle_induction` applies it to `cfg` itself, C17 to `cfg` under two flag sets. -/
inductive Session.Effect (cfg : Cfg) (s : Session) (p : Part) : Req → (Cfg → Res) → Prop
  | side {r res} (h : s.SideEffect cfg p r res) : Effect cfg s p r fun _ => res
  | pinged {rid l ds} (ho : (s.latOf p.pid).open_.contains rid = true) (h : Answers p.conn ds) :
      Effect cfg s p (.pingResp rid) fun _ => ({ s with lats := l }, ds, .ok)
  | measured {rid iter wallet l ds} (h : Answers p.conn ds) :
      Effect cfg s p (.signedLatency rid iter wallet) fun _ => ({ s with lats := l }, ds, .ok)
  | entityAdd {rid ots persist flag pose} :
      Effect cfg s p (.entityAdd rid ots persist flag pose) fun cfg' =>
        ({ s with eidCur := s.eidCur + 1, ents := s.ents ++ [⟨s.eidCur + 1, p.pid, persist, flag, pose.getD 0⟩] },
         (p.conn, .entityAddResp rid (s.eidCur + 1)) ::
           gate cfg' fEntityAdd (s.bcast p.pid (.entityAddBcast ots ⟨s.eidCur + 1, p.pid, flag, pose.getD 0⟩)), .ok)
  | entityDelete {rid ots eid e} (he : s.findEnt eid = some e) (ho : e.owner = p.pid) :
      Effect cfg s p (.entityDelete rid ots eid) fun cfg' =>
        ({ s with comps := s.comps.filter (·.eid != e.id), ents := s.ents.filter (·.id != e.id) },
         (p.conn, .entityDeleteResp rid) :: gate cfg' fEntityDelete (s.bcast p.pid (.entityDeleteBcast (some ots) e.id)), .ok)
  | updatePose {ots eid e v} (he : s.findEnt eid = some e) (ho : e.owner = p.pid) :
      Effect cfg s p (.updatePose ots eid (some v)) fun cfg' =>
        ({ s with ents := s.ents.map fun x => if x.id == e.id then { x with pose := v } else x },
         gate cfg' fPose (s.bcast p.pid (.poseBcast ots e.id v)), .ok)
  | custom {ots pids body} :
      Effect cfg s p (.custom ots pids body) fun cfg' =>
        (s, gate cfg' fCustom (if pids.length != 0 then s.bcastTo p.pid (.customBcast ots p.pid body) pids
                              else s.bcast p.pid (.customBcast ots p.pid body)), .ok)
  | typeAdd {rid name} (hn : s.typeId name = none) :
      Effect cfg s p (.typeAdd rid name) fun _ =>
        ({ s with tidCur := s.tidCur + 1, types := s.types ++ [(s.tidCur + 1, name)] },
         [(p.conn, .typeAddResp rid (s.tidCur + 1))], .ok)
  | compAdd {rid ots tid eid data e} (he : s.findEnt eid = some e) (ht : (s.typeName tid).isSome = true)
      (hc : s.findComp tid e.id = none) :
      Effect cfg s p (.compAdd rid ots tid eid data) fun cfg' =>
        ({ s with comps := s.comps ++ [⟨tid, e.id, data⟩] },
         (p.conn, .compAddResp rid) ::
           gate cfg' fCompAdd (if (s.subscribers tid).isEmpty then [] else s.bcast p.pid (.compAddBcast ots ⟨tid, e.id, data⟩)),
         .ok)
  | compDelete {rid ots tid eid e} (he : s.findEnt eid = some e) (hc : (s.findComp tid e.id).isSome = true) :
      Effect cfg s p (.compDelete rid ots tid eid) fun cfg' =>
        ({ s with comps := s.comps.filter fun c => !(c.tid == tid && c.eid == e.id) },
         gate cfg' fCompDelete (if (s.subscribers tid).isEmpty then [] else s.bcast p.pid (.compDeleteBcast ots tid e.id))
           ++ [(p.conn, .compDeleteResp rid)], .ok)
  | compUpdate {ots tid eid data e} (he : s.findEnt eid = some e) (hc : (s.findComp tid e.id).isSome = true) :
      Effect cfg s p (.compUpdate ots tid eid data) fun cfg' =>
        ({ s with comps := s.comps.map fun x => if x.tid == tid && x.eid == e.id then ⟨tid, e.id, data⟩ else x },
         gate cfg' fCompUpdate (s.bcastTo p.pid (.compUpdateBcast ots ⟨tid, e.id, data⟩) (s.subscribers tid)), .ok)
  | subscribe {rid tid} (ht : (s.typeName tid).isSome = true) (hn : s.subs.contains (tid, p.pid) = false) :
      Effect cfg s p (.subscribe rid tid) fun _ =>
        ({ s with subs := s.subs ++ [(tid, p.pid)] }, [(p.conn, .subscribeResp rid)], .ok)
  | unsubscribe {rid tid} :
      Effect cfg s p (.unsubscribe rid tid) fun _ =>
        ({ s with subs := s.subs.filter (· != (tid, p.pid)) }, [(p.conn, .unsubscribeResp rid)], .ok)

namespace Session
variable (cfg : Cfg) (s : Session) (p : Part) (hint : Nat)

variable {cfg s p} in
theorem Effect.refused {r : Req} {rid code : Nat} : Effect cfg s p r fun _ => (s, [(p.conn, .error rid code)], .ok) :=
  .side (.answered (.one rfl))

variable {cfg s p} in
theorem Effect.ignored {r : Req} {o : Outcome} : Effect cfg s p r fun _ => (s, [], o) := .side (.answered .nil)

variable {cfg s p} in
theorem SideEffect.ite {r : Req} {c : Prop} [Decidable c] {a b : Res} (ha : c → SideEffect cfg s p r a)
    (hb : ¬c → SideEffect cfg s p r b) : SideEffect cfg s p r (if c then a else b) :=
  iteInduction ha hb

variable {cfg s p} in
theorem Effect.ite {r : Req} {c : Prop} [Decidable c] {g h : Cfg → Res} (hg : Effect cfg s p r g)
    (hh : ¬c → Effect cfg s p r h) : Effect cfg s p r fun cfg' => if c then g cfg' else h cfg' := by
  split
  · exact hg
  · exact hh ‹_›

theorem entityDelete_effect (rid ots eid : Nat) :
    Effect cfg s p (.entityDelete rid ots eid) fun cfg' => s.entityDelete cfg' p rid ots eid := by
  unfold entityDelete
  split
  · exact .refused
  next e he => exact .ite .refused fun ho => .entityDelete he (by simpa using ho)

theorem updatePose_effect (ots eid : Nat) (pose : Option Nat) :
    Effect cfg s p (.updatePose ots eid pose) fun cfg' => s.updatePose cfg' p ots eid pose := by
  unfold updatePose
  split
  · exact .ignored
  next e he =>
    refine .ite .ignored fun ho => ?_
    split
    · exact .ignored
    · exact .updatePose he (by simpa using ho)

theorem custom_effect (ots : Nat) (pids : List Nat) (body : Bytes) :
    Effect cfg s p (.custom ots pids body) fun cfg' => s.custom cfg' p ots pids body :=
  .ite (.side (.answered (.one rfl))) fun _ => .custom

theorem typeAdd_effect (rid : Nat) (name : String) :
    Effect cfg s p (.typeAdd rid name) fun _ => s.typeAdd p rid name := by
  unfold typeAdd
  split
  · exact .side (.answered (.one rfl))
  next hn => exact .typeAdd hn

theorem compAdd_effect (rid ots tid eid : Nat) (data : Bytes) :
    Effect cfg s p (.compAdd rid ots tid eid data) fun cfg' => s.compAdd cfg' p rid ots tid eid data := by
  unfold compAdd
  split
  · exact .refused
  next e he =>
    refine .ite .refused fun ht => .ite .refused fun hc => ?_
    exact .compAdd he (by simpa [Option.isSome_iff_ne_none] using ht) (by simpa using hc)

theorem compDelete_effect (rid ots tid eid : Nat) :
    Effect cfg s p (.compDelete rid ots tid eid) fun cfg' => s.compDelete cfg' p rid ots tid eid := by
  unfold compDelete
  split
  · exact .refused
  next e he =>
    exact .ite .refused fun hc => .compDelete he (by simpa [Option.isSome_iff_ne_none] using hc)

theorem compUpdate_effect (ots tid eid : Nat) (data : Bytes) :
    Effect cfg s p (.compUpdate ots tid eid data) fun cfg' => s.compUpdate cfg' p ots tid eid data := by
  unfold compUpdate
  split
  · exact .ignored
  next e he =>
    refine .ite .ignored fun hc => ?_
    simp only [ite_isEmpty_bcastTo]
    exact .compUpdate he (by simpa [Option.isSome_iff_ne_none] using hc)

theorem subscribe_effect (rid tid : Nat) : Effect cfg s p (.subscribe rid tid) fun _ => s.subscribe p rid tid := by
  refine .ite .refused fun ht => ?_
  split
  · exact .side (.answered (.one rfl))
  next hn => exact .subscribe (by simpa [Option.isSome_iff_ne_none] using ht) (by simpa using hn)

theorem onPing_effect (rid : Nat) : Effect cfg s p (.pingResp rid) fun _ => s.onPing p rid hint := by
  refine .ite .refused fun ho => ?_
  have ho : (s.latOf p.pid).open_.contains rid = true := by simpa using ho
  exact .ite (.pinged ho (.one rfl)) fun _ => .pinged ho (.one rfl)

theorem latencyStart_effect (rid iter : Nat) (wallet : String) :
    Effect cfg s p (.signedLatency rid iter wallet) fun _ => s.latencyStart p rid iter wallet hint :=
  .measured (.append (.abandoned s p) (.one rfl))

theorem core_effect (r : Req) : Effect cfg s p r fun cfg' => s.core cfg' p r hint := by
  cases r
  case pingResp rid => exact s.onPing_effect cfg p hint rid
  case signedLatency rid iter wallet =>
    refine .ite .refused fun _ => .ite .refused fun _ => ?_
    exact s.latencyStart_effect cfg p hint rid iter wallet
  case entityAdd => exact .entityAdd
  case entityDelete rid ots eid => exact s.entityDelete_effect cfg p rid ots eid
  case updatePose ots eid pose => exact s.updatePose_effect cfg p ots eid pose
  case custom ots pids body => exact s.custom_effect cfg p ots pids body
  case typeAdd rid name => exact .ite .refused fun _ => s.typeAdd_effect cfg p rid name
  case typeGetName | typeGetId =>
    refine .ite .refused fun _ => ?_
    split
    · exact .side (.answered (.one rfl))
    · exact .refused
  case compAdd rid ots tid eid data => exact .ite .refused fun _ => s.compAdd_effect cfg p rid ots tid eid data
  case compDelete rid ots tid eid => exact .ite .refused fun _ => s.compDelete_effect cfg p rid ots tid eid
  case compUpdate ots tid eid data => exact .ite .ignored fun _ => s.compUpdate_effect cfg p ots tid eid data
  case compList rid tid => exact .ite .refused fun _ => .side (.answered (.one rfl))
  case subscribe rid tid => exact .ite .refused fun _ => s.subscribe_effect cfg p rid tid
  case unsubscribe rid tid => exact .ite .refused fun _ => .unsubscribe
  all_goals exact .ignored

theorem vikja_effect (hv : cfg.vikja = true) (r : Req) : s.SideEffect cfg p r (s.vikja p r) := by
  unfold vikja
  split
  · exact .ite (fun he => .actionsDropped hv (by simpa using he)) fun _ => .answered .nil
  next rid ots act =>
    split
    · exact .answered (.one rfl)
    next a =>
      refine .ite (fun hok => ?_) fun _ => .answered (.one rfl)
      rw [setAction_eq]
      exact .action hv hok
  · exact .answered .nil
  · exact .answered .nil

theorem odal_effect (ho : cfg.odal = true) (r : Req) : s.SideEffect cfg p r (s.odal p r) := by
  unfold odal
  split
  · exact .ite (fun he => .assetsDropped ho (by simpa using he)) fun _ => .answered .nil
  next rid ots assetId eid =>
    refine .ite (fun _ => .answered (.one rfl)) fun hid => ?_
    split
    · exact .answered (.one rfl)
    next e he =>
      refine .ite (fun _ => .answered (.one rfl)) fun hown => ?_
      simp only [setAsset_eq]
      exact .assetAdd ho (by simpa using hid) he (by simpa using hown)
  · exact .answered .nil
  · exact .answered .nil

theorem dagaz_effect (hd : cfg.dagaz = true) (r : Req) : s.SideEffect cfg p r (s.dagaz p r) := by
  unfold dagaz
  split
  · exact .quads hd
  · exact .answered (.one rfl)
  · exact .answered (.one rfl)
  · exact .answered (.one rfl)
  · exact .answered .nil
  · exact .answered .nil

end Session

theorem Res.andThen_induction {Q : Session → Res → Prop}
    (bind : ∀ {t u : Session} {ds : List Delivery} {r' : Res}, Q t (u, ds, .ok) → Q u r' → Q t (r'.1, ds ++ r'.2.1, r'.2.2))
    {s : Session} {r : Res} {f : Session → Res} (hr : Q s r) (hf : ∀ t, Q t (f t)) : Q s (Res.andThen r f) := by
  obtain ⟨t, ds, o⟩ := r
  cases o
  · rw [Res.andThen_ok]; exact bind hr (hf t)
  · exact hr
  · exact hr

theorem Session.modules_induction {Q : Session → Res → Prop} (cfg : Cfg) (p : Part) (r : Req)
    (bind : ∀ {t u : Session} {ds : List Delivery} {r' : Res}, Q t (u, ds, .ok) → Q u r' → Q t (r'.1, ds ++ r'.2.1, r'.2.2))
    (eff : ∀ (t : Session) (res : Res), t.SideEffect cfg p r res → Q t res) (s : Session) : Q s (s.modules cfg p r) := by
  have idle : ∀ t : Session, Q t (t, [], .ok) := fun t => eff t _ (.answered .nil)
  unfold Session.modules
  refine Res.andThen_induction bind (Res.andThen_induction bind (Res.andThen_induction bind (idle s) ?_) ?_) ?_
  · intro u; split
    next hv => exact eff u _ (u.vikja_effect cfg p hv r)
    · exact idle u
  · intro u; split
    next ho => exact eff u _ (u.odal_effect cfg p ho r)
    · exact idle u
  · intro u; split
    next hd => exact eff u _ (u.dagaz_effect cfg p hd r)
    · exact idle u

/-- The core handler, then each loaded module, each a step of `Res.andThen`.  For a motive that is known of the core
    handler on the session `s` it runs on only (C01: the invariant is assumed of `s`; C04: the table is consulted on `s`). -/
theorem Session.handle_induction_from {Q : Session → Res → Prop} (cfg : Cfg) (p : Part) (r : Req) (hint : Nat)
    (bind : ∀ {t u : Session} {ds : List Delivery} {r' : Res}, Q t (u, ds, .ok) → Q u r' → Q t (r'.1, ds ++ r'.2.1, r'.2.2))
    {s : Session} (core : Q s (s.core cfg p r hint)) (eff : ∀ (t : Session) (res : Res), t.SideEffect cfg p r res → Q t res) :
    Q s (s.handle cfg p r hint) :=
  Res.andThen_induction bind core (Session.modules_induction cfg p r bind eff)

/-- **What holds of every effect and composes, holds of every request.** -/
theorem Session.handle_induction {Q : Session → Res → Prop} (cfg : Cfg) (p : Part) (r : Req) (hint : Nat)
    (bind : ∀ {t u : Session} {ds : List Delivery} {r' : Res}, Q t (u, ds, .ok) → Q u r' → Q t (r'.1, ds ++ r'.2.1, r'.2.2))
    (eff : ∀ (t : Session) (g : Cfg → Res), t.Effect cfg p r g → Q t (g cfg)) (s : Session) :
    Q s (s.handle cfg p r hint) :=
  Session.handle_induction_from cfg p r hint bind (eff s _ (s.core_effect cfg p hint r)) fun u _ h => eff u _ (.side h)

end Hagall
