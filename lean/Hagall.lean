import Hagall.Gen.AbsChans
import Hagall.Gen.AbsCustom
import Hagall.Gen.AbsDispatch
import Hagall.Gen.AbsFlags
import Hagall.Gen.AbsLatency
import Hagall.Gen.AbsLife
import Hagall.Gen.AbsOrder
import Hagall.Gen.Expected
import Hagall.Gen.Facts
import Hagall.Gen.ObC01
import Hagall.Gen.ObC02
import Hagall.Gen.ObC03
import Hagall.Gen.ObC04
import Hagall.Gen.ObC05
import Hagall.Gen.ObC06
import Hagall.Gen.ObC07
import Hagall.Gen.ObC08
import Hagall.Gen.ObC09
import Hagall.Gen.ObC10
import Hagall.Gen.ObC11
import Hagall.Gen.ObC12
import Hagall.Gen.ObC13
import Hagall.Gen.ObC14
import Hagall.Gen.ObC15
import Hagall.Gen.ObC16
import Hagall.Gen.ObC17
import Hagall.Gen.ObC18
import Hagall.Gen.ObC19
import Hagall.Gen.ObC20
import Hagall.Model.AddOnce
import Hagall.Model.Attach
import Hagall.Model.Auth
import Hagall.Model.Grid
import Hagall.Model.GridIndex
import Hagall.Model.GridReplay
import Hagall.Model.Handover
import Hagall.Model.Latency
import Hagall.Model.Life
import Hagall.Model.Locks
import Hagall.Model.Newcomer
import Hagall.Model.Notify
import Hagall.Model.Premature
import Hagall.Model.Receipt
import Hagall.Model.Registry
import Hagall.Model.RegistryOld
import Hagall.Model.Relay
import Hagall.Model.Server
import Hagall.Model.Session
import Hagall.Model.Types
import Hagall.Model.Vec
import Hagall.Model.Wire
import Hagall.Model.Writers
import Hagall.Proofs.Basic
import Hagall.Proofs.DataInv
import Hagall.Proofs.Effect
import Hagall.Proofs.Flags
import Hagall.Proofs.Frame
import Hagall.Proofs.GridIndex
import Hagall.Proofs.Handle
import Hagall.Proofs.Invariant
import Hagall.Proofs.Keyed
import Hagall.Proofs.Registry
import Hagall.Props.C01
import Hagall.Props.C01Conc
import Hagall.Props.C01New
import Hagall.Props.C02
import Hagall.Props.C02Conc
import Hagall.Props.C02Order
import Hagall.Props.C03
import Hagall.Props.C03Conc
import Hagall.Props.C03Trace
import Hagall.Props.C04
import Hagall.Props.C05
import Hagall.Props.C05Premature
import Hagall.Props.C06
import Hagall.Props.C06Conc
import Hagall.Props.C07
import Hagall.Props.C07Conc
import Hagall.Props.C08
import Hagall.Props.C09
import Hagall.Props.C10
import Hagall.Props.C11
import Hagall.Props.C12
import Hagall.Props.C12Add
import Hagall.Props.C12Conc
import Hagall.Props.C13
import Hagall.Props.C13Conc
import Hagall.Props.C14
import Hagall.Props.C15
import Hagall.Props.C16
import Hagall.Props.C16Conc
import Hagall.Props.C17
import Hagall.Props.C18
import Hagall.Props.C19
import Hagall.Props.C19Valid
import Hagall.Props.C20
import Hagall.Props.C20Prim
import Hagall.Props.C20Total
import Hagall.Spec.Answers
import Hagall.Spec.Monitors
import Hagall.Spec.RegistryExplore
import Hagall.Spec.Relay
import Hagall.Spec.Trace
import Hagall.Spec.Views
